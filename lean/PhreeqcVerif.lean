import PhreeqcVerif.Model.Api
import PhreeqcVerif.Model.Assemblage
import PhreeqcVerif.Model.BasicEval
import PhreeqcVerif.Model.BasicExec
import PhreeqcVerif.Model.BasicExpr
import PhreeqcVerif.Model.BasicGrammar
import PhreeqcVerif.Model.BasicLex
import PhreeqcVerif.Model.BasicNum
import PhreeqcVerif.Model.ErrAcct
import PhreeqcVerif.Model.FindOption
import PhreeqcVerif.Model.Formula
import PhreeqcVerif.Model.Gamma
import PhreeqcVerif.Model.GasPhase
import PhreeqcVerif.Model.GlobalsPolicy
import PhreeqcVerif.Model.Inventory
import PhreeqcVerif.Model.Inverse
import PhreeqcVerif.Model.KinTime
import PhreeqcVerif.Model.LineReader
import PhreeqcVerif.Model.MixAlg
import PhreeqcVerif.Model.NameDouble
import PhreeqcVerif.Model.NumOps
import PhreeqcVerif.Model.PengRobinson
import PhreeqcVerif.Model.Pitzer
import PhreeqcVerif.Model.RK
import PhreeqcVerif.Model.RawTables
import PhreeqcVerif.Model.Registry
import PhreeqcVerif.Model.Reset
import PhreeqcVerif.Model.ResetPolicy
import PhreeqcVerif.Model.Route
import PhreeqcVerif.Model.Sched
import PhreeqcVerif.Model.SelOut
import PhreeqcVerif.Model.Settings
import PhreeqcVerif.Model.Speciation
import PhreeqcVerif.Model.Store
import PhreeqcVerif.Model.Surface
import PhreeqcVerif.Model.Thermo
import PhreeqcVerif.Model.Transport
import PhreeqcVerif.Model.Units
import PhreeqcVerif.Model.Util
import PhreeqcVerif.Model.Wrapper
import PhreeqcVerif.Gen.ApiTable
import PhreeqcVerif.Gen.BasicTokens
import PhreeqcVerif.Gen.Comparators
import PhreeqcVerif.Gen.ErrAcct
import PhreeqcVerif.Gen.GammaSrc
import PhreeqcVerif.Gen.Globals
import PhreeqcVerif.Gen.Keywords
import PhreeqcVerif.Gen.LockAudit
import PhreeqcVerif.Gen.Members
import PhreeqcVerif.Gen.RKTableau
import PhreeqcVerif.Gen.RawTables
import PhreeqcVerif.Gen.SpeciationSrc
import PhreeqcVerif.Gen.StoreTables
import PhreeqcVerif.Gen.SurfConst
import PhreeqcVerif.Lemmas.Assemblage
import PhreeqcVerif.Lemmas.Assoc
import PhreeqcVerif.Lemmas.Attr
import PhreeqcVerif.Lemmas.BasicExec
import PhreeqcVerif.Lemmas.BasicFor
import PhreeqcVerif.Lemmas.BasicParse
import PhreeqcVerif.Lemmas.ErrAcct
import PhreeqcVerif.Lemmas.Formula
import PhreeqcVerif.Lemmas.Gamma
import PhreeqcVerif.Lemmas.Gas
import PhreeqcVerif.Lemmas.Inventory
import PhreeqcVerif.Lemmas.Inverse
import PhreeqcVerif.Lemmas.KinTime
import PhreeqcVerif.Lemmas.LineReader
import PhreeqcVerif.Lemmas.List
import PhreeqcVerif.Lemmas.NumOps
import PhreeqcVerif.Lemmas.RK
import PhreeqcVerif.Lemmas.Raw
import PhreeqcVerif.Lemmas.Registry
import PhreeqcVerif.Lemmas.Reset
import PhreeqcVerif.Lemmas.Route
import PhreeqcVerif.Lemmas.Sched
import PhreeqcVerif.Lemmas.SelOut
import PhreeqcVerif.Lemmas.Settings
import PhreeqcVerif.Lemmas.Store
import PhreeqcVerif.Lemmas.String
import PhreeqcVerif.Lemmas.Surface
import PhreeqcVerif.Lemmas.Thermo
import PhreeqcVerif.Lemmas.Transport
import PhreeqcVerif.Lemmas.Units
import PhreeqcVerif.Lemmas.Wrapper
import PhreeqcVerif.Properties.C01
import PhreeqcVerif.Properties.C02
import PhreeqcVerif.Properties.C03
import PhreeqcVerif.Properties.C04
import PhreeqcVerif.Properties.C05
import PhreeqcVerif.Properties.C06
import PhreeqcVerif.Properties.C07
import PhreeqcVerif.Properties.C08
import PhreeqcVerif.Properties.C10
import PhreeqcVerif.Properties.C11
import PhreeqcVerif.Properties.C12
import PhreeqcVerif.Properties.C13
import PhreeqcVerif.Properties.C13Store
import PhreeqcVerif.Properties.C14
import PhreeqcVerif.Properties.C15
import PhreeqcVerif.Properties.C16
import PhreeqcVerif.Properties.C17
import PhreeqcVerif.Properties.C18
import PhreeqcVerif.Properties.C19
import PhreeqcVerif.Properties.C20
import PhreeqcVerif.Properties.Route
