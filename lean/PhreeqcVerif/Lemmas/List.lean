/-! Facts about `List.foldl` that the state-machine models share. An invariant of the step function is carried along a
fold by core's `List.foldlRecOn`, a map between two state spaces by `List.foldl_hom`; what is missing there is below. -/
namespace List

/-- a state that no step leaves is where the fold stays -/
theorem foldl_fixed_point {α β : Type _} {f : β → α → β} {b : β} (hf : ∀ a, f b a = b) (l : List α) : l.foldl f b = b := by
  induction l with
  | nil => rfl
  | cons a l ih => rw [foldl_cons, hf, ih]

/-- `List.foldl_hom` with the step equation asked only of the members of the list -/
theorem foldl_hom_mem {α β γ : Type _} (g : α → β) (f₁ : α → γ → α) (f₂ : β → γ → β) (l : List γ) (a : α)
    (H : ∀ a, ∀ x ∈ l, f₂ (g a) x = g (f₁ a x)) : l.foldl f₂ (g a) = g (l.foldl f₁ a) := by
  induction l generalizing a with
  | nil => rfl
  | cons x l ih =>
    rw [foldl_cons, foldl_cons, H a x (by simp), ih _ fun a y hy => H a y (by simp [hy])]

end List
