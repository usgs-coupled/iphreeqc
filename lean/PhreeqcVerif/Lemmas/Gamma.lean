import PhreeqcVerif.Model.Gamma
import PhreeqcVerif.Model.Pitzer
import PhreeqcVerif.Lemmas.NumOps
import Mathlib.Tactic.Ring
import Mathlib.Tactic.FieldSimp
import Mathlib.Tactic.Linarith
import Mathlib.Tactic.LinearCombination
import Mathlib.Algebra.Order.Field.Basic
/-! What `Properties/C16.lean` rests on.  For `Model/Gamma.lean`: the model-selection fold, the LLNL search loop.  For
`Model/Pitzer.lean`: sums over `0..n-1`, the dual numbers (components of the operations, constants, the tests the model
makes; the components of `sqrt`, `ln`, `exp` are `d_sqrt_re` … in `Properties/C16.lean`), the weighted sum of the
additions to `LGAMMA` and the balance a loop over the parameters keeps, the multipliers of `pitzer_tidy`, the Clenshaw
recurrences on dual numbers. -/
namespace PhreeqcVerif

theorem ite_not_swap {β : Type} (c : Bool) (x y : β) : (if c = true then x else y) = (if (!c) = true then y else x) := by
  cases c <;> rfl

/-- the `x == 0` of the C++ as both models write it -/
theorem le_and_ge_zero (x : Rat) : (decide (x ≤ 0) && decide (0 ≤ x)) = decide (x = 0) := by
  simp only [le_antisymm_iff (a := x), Bool.decide_and]

end PhreeqcVerif

namespace PhreeqcVerif.Gamma
open NumOps

/-! ## model selection -/

theorem applyOpt_model {α : Type} (a : Assign α) (o : GOpt α) : (applyOpt a o).model = o.model := by
  cases o with
  | gamma x y => cases x <;> rfl
  | llnlGamma x => rfl
  | co2Llnl => rfl
  | actWater => rfl

theorem foldl_applyOpt_model {α : Type} (opts : List (GOpt α)) (a : Assign α) (o : GOpt α)
    (h : opts.getLast? = some o) : (opts.foldl applyOpt a).model = o.model := by
  obtain ⟨ys, rfl⟩ := List.getLast?_eq_some_iff.mp h
  rw [List.foldl_append]
  exact applyOpt_model _ o

theorem assign_assigned {α : Type} [NumOps α] (d : Decl α) : Assigned d (assign d).model := by
  cases hl : d.opts.getLast? with
  | some o =>
    rw [assign, foldl_applyOpt_model d.opts _ o hl]
    exact .lastOpt d o hl
  | none =>
    have hnil : d.opts = [] := by simpa using hl
    rw [assign, hnil, List.foldl_nil, defaultAssign]
    cases hs : d.special with
    | none =>
      cases hz : d.zIsZero with
      | true => exact .neutral d hnil hs hz
      | false => exact .charged d hnil hs hz
    | eminus => exact .special d hnil (by simp [hs])
    | h2o => exact .special d hnil (by simp [hs])

theorem assigned_eq {α : Type} [NumOps α] (d : Decl α) (k : GModel) (h : Assigned d k) : k = (assign d).model := by
  cases h with
  | lastOpt o h => exact (foldl_applyOpt_model d.opts _ o h).symm
  | special h hs => cases hd : d.special <;> simp_all [assign, defaultAssign]
  | neutral h hs hz => simp [assign, defaultAssign, h, hs, hz]
  | charged h hs hz => simp [assign, defaultAssign, h, hs, hz]

/-! ## the formulas -/

theorem isZero_rat (f : TransFns Rat) (z : Rat) : @isZero Rat (ratOps f) _ z = decide (z = 0) := le_and_ge_zero z

/-! ## LLNL temperature grid -/

/-- what the search loop returns on a (suffix of the) grid that contains a node `>= tc`:
`ilast` is the first such node; `ifirst` is the same node when it equals `tc`, otherwise the node before it
(the `ifirst` carried in, when there is none in this suffix) -/
theorem searchGo_spec (f : TransFns Rat) (tc : Rat) (n : Nat) (l : List Rat) (i ifirst : Nat)
    (hex : ∃ x ∈ l, tc ≤ x) :
    letI := ratOps f
    ∃ k, k < l.length ∧ (searchGo tc n l i ifirst).2 = i + k ∧ tc ≤ l.getD k 0 ∧ (∀ j, j < k → l.getD j 0 < tc) ∧
      (searchGo tc n l i ifirst).1 = (if l.getD k 0 ≤ tc then i + k else if k = 0 then ifirst else i + k - 1) := by
  let _r : NumOps Rat := ratOps f
  fun_induction searchGo tc n l i ifirst with
  | case1 => simp at hex
  | case2 t rest i ifirst ifirst' h =>
    exact ⟨0, Nat.succ_pos _, rfl, h, fun j hj => absurd hj (Nat.not_lt_zero j), rfl⟩
  | case3 t rest i ifirst ifirst' h ih =>
    have hlt : t < tc := lt_of_not_ge h
    obtain ⟨k, hk, h2, h3, h4, h5⟩ := ih (by simpa [h] using hex)
    refine ⟨k + 1, Nat.succ_lt_succ hk, by rw [h2]; omega, h3, ?_, ?_⟩
    · intro j hj
      cases j with
      | zero => exact hlt
      | succ j => exact h4 j (Nat.lt_of_succ_lt_succ hj)
    · rw [h5, show ifirst' = i from if_pos hlt.le, List.getD_cons_succ, if_neg (Nat.succ_ne_zero k),
        Nat.add_right_comm i 1 k]
      by_cases hk0 : k = 0
      · subst hk0; rfl
      · rw [if_neg hk0]; rfl

/-- `search` on a grid whose range contains `tc`: `ilast` is the first node `k` with `tc ≤ t[k]`; `ifirst` is `k` when that
node equals `tc` and `k − 1` otherwise (then `k ≠ 0`, as `t[0] ≤ tc`) -/
theorem search_spec (f : TransFns Rat) (ts : List Rat) (tc : Rat) (hr : letI := ratOps f; inRange ts tc = true) :
    letI := ratOps f
    ∃ k, k < ts.length ∧ tc ≤ ts.getD k 0 ∧ (∀ j, j < k → ts.getD j 0 < tc) ∧
      search ts tc = (if ts.getD k 0 ≤ tc then k else k - 1, k) ∧ (¬ ts.getD k 0 ≤ tc → k ≠ 0) := by
  let _r : NumOps Rat := ratOps f
  cases ts with
  | nil => exact absurd hr Bool.false_ne_true
  | cons t0 rest =>
    obtain ⟨hlo, hhi⟩ : t0 ≤ tc ∧ tc ≤ rest.getLastD t0 := by
      simpa only [inRange, List.getLastD_cons, Bool.not_eq_true', Bool.or_eq_false_iff, decide_eq_false_iff_not,
        not_lt] using hr
    obtain ⟨k, hk, h2, h3, h4, h5⟩ :=
      searchGo_spec f tc (t0 :: rest).length (t0 :: rest) 0 0 ⟨_, List.getLastD_mem_cons, hhi⟩
    rw [Nat.zero_add] at h2 h5
    refine ⟨k, hk, h3, h4, Prod.ext ?_ h2, fun h6 h => h6 (by subst h; exact hlo)⟩
    rw [search, h5]
    by_cases hk0 : k = 0
    · subst hk0; rfl
    · rw [if_neg hk0]

theorem getD_lt_of_pairwise (l : List Rat) (hs : l.Pairwise (· < ·)) (a b : Nat) (hab : a < b) (hb : b < l.length) :
    l.getD a 0 < l.getD b 0 := by
  have ha : a < l.length := by omega
  rw [List.getD_eq_getElem?_getD, List.getD_eq_getElem?_getD, List.getElem?_eq_getElem ha, List.getElem?_eq_getElem hb]
  exact List.pairwise_iff_getElem.mp hs a b ha hb hab

theorem blend_between (w a b : Rat) (h0 : 0 ≤ w) (h1 : w ≤ 1) :
    min a b ≤ (1 - w) * a + w * b ∧ (1 - w) * a + w * b ≤ max a b := by
  have h1' : 0 ≤ 1 - w := sub_nonneg.2 h1
  constructor
  · calc min a b = (1 - w) * min a b + w * min a b := by ring
      _ ≤ (1 - w) * a + w * b :=
        add_le_add (mul_le_mul_of_nonneg_left (min_le_left a b) h1') (mul_le_mul_of_nonneg_left (min_le_right a b) h0)
  · calc (1 - w) * a + w * b ≤ (1 - w) * max a b + w * max a b :=
        add_le_add (mul_le_mul_of_nonneg_left (le_max_left a b) h1') (mul_le_mul_of_nonneg_left (le_max_right a b) h0)
      _ = max a b := by ring

end PhreeqcVerif.Gamma

namespace PhreeqcVerif.Pitzer
open NumOps

/-! ## sums over `0..n-1` -/

/-- `Pitzer.sumTo` over the rational numbers, written without a `NumOps` instance (`sumTo_rat`) -/
def rsum (n : Nat) (g : Nat → Rat) : Rat :=
  match n with
  | 0 => 0
  | k + 1 => rsum k g + g k

theorem rsum_add (n : Nat) (g h : Nat → Rat) : rsum n (fun k => g k + h k) = rsum n g + rsum n h := by
  induction n with
  | zero => simp [rsum]
  | succ k ih => simp only [rsum, ih]; ring

theorem rsum_mul_right (n : Nat) (g : Nat → Rat) (c : Rat) : rsum n (fun k => g k * c) = rsum n g * c := by
  induction n with
  | zero => simp [rsum]
  | succ k ih => simp only [rsum, ih]; ring

theorem rsum_congr (n : Nat) (g h : Nat → Rat) (e : ∀ k, k < n → g k = h k) : rsum n g = rsum n h := by
  induction n with
  | zero => rfl
  | succ k ih =>
    simp only [rsum]
    rw [ih (fun j hj => e j (Nat.lt_succ_of_lt hj)), e k (Nat.lt_succ_self k)]

@[simp] theorem rsum_zero (n : Nat) : rsum n (fun _ => 0) = 0 := by
  induction n with
  | zero => rfl
  | succ k ih => rw [rsum, ih, add_zero]

theorem rsum_ite (n i : Nat) (c : Rat) (hi : i < n) : rsum n (fun k => if i = k then c else 0) = c := by
  induction n with
  | zero => omega
  | succ k ih =>
    rw [rsum]
    by_cases h : i = k
    · subst h
      rw [rsum_congr i _ (fun _ => 0) (fun j hj => if_neg (by omega)), rsum_zero, if_pos rfl, zero_add]
    · rw [ih (by omega), if_neg h, add_zero]

/-! ## dual numbers -/

section dual
variable (f : TransFns Rat)

@[simp] theorem d_add_re (a b : Dual) : (a + b).re = a.re + b.re := rfl
@[simp] theorem d_add_eps (a b : Dual) : (a + b).eps = a.eps + b.eps := rfl
@[simp] theorem d_sub_re (a b : Dual) : (a - b).re = a.re - b.re := rfl
@[simp] theorem d_sub_eps (a b : Dual) : (a - b).eps = a.eps - b.eps := rfl
@[simp] theorem d_mul_re (a b : Dual) : (a * b).re = a.re * b.re := rfl
@[simp] theorem d_mul_eps (a b : Dual) : (a * b).eps = a.re * b.eps + a.eps * b.re := rfl
@[simp] theorem d_neg_re (a : Dual) : (-a).re = -a.re := rfl
@[simp] theorem d_neg_eps (a : Dual) : (-a).eps = -a.eps := rfl
@[simp] theorem d_div_re (a b : Dual) : (a / b).re = a.re / b.re := rfl
@[simp] theorem d_div_eps (a b : Dual) : (a / b).eps = (a.eps * b.re - a.re * b.eps) / (b.re * b.re) := rfl
@[simp] theorem d_const_re (q : Rat) : (Dual.const q).re = q := rfl
@[simp] theorem d_const_eps (q : Rat) : (Dual.const q).eps = 0 := rfl
@[simp] theorem d_lit_re (q : Rat) : (@NumOps.lit Dual (dualOps f) q).re = q := rfl
@[simp] theorem d_lit_eps (q : Rat) : (@NumOps.lit Dual (dualOps f) q).eps = 0 := rfl
@[simp] theorem d_mk_re (a b : Rat) : (Dual.mk a b).re = a := rfl
@[simp] theorem d_mk_eps (a b : Rat) : (Dual.mk a b).eps = b := rfl

attribute [dual_ops] d_add_re d_add_eps d_sub_re d_sub_eps d_mul_re d_mul_eps d_neg_re d_neg_eps d_div_re d_div_eps
  d_const_re d_const_eps d_lit_re d_lit_eps d_mk_re d_mk_eps

/-- the first-order part of a quotient by a constant, as `d_div_eps` gives it -/
theorem div_const_eps (a c : Rat) : (a * c - 0) / (c * c) = a / c := by
  by_cases h : c = 0
  · subst h; simp
  · field_simp
    ring

theorem dual_ext {a b : Dual} (h1 : a.re = b.re) (h2 : a.eps = b.eps) : a = b := by
  cases a; cases b; simp_all

theorem lit_dual (q : Rat) : @NumOps.lit Dual (dualOps f) q = Dual.const q := rfl

theorem neg_const (q : Rat) : -(Dual.const q) = Dual.const (-q) := dual_ext rfl neg_zero

theorem d_le (a b : Dual) : a ≤ b ↔ a.re ≤ b.re := Iff.rfl

theorem isZero_rat (x : Rat) : @isZero Rat (ratOps f) _ x = decide (x = 0) := le_and_ge_zero x

theorem isZero_dual (y : Dual) : @isZero Dual (dualOps f) _ y = decide (y.re = 0) := isZero_rat f y.re

theorem absv_const (a : Rat) : @absv Dual (dualOps f) _ (Dual.const a) = Dual.const |a| := by
  by_cases h : a < 0
  · rw [abs_of_neg h]; exact if_pos h
  · rw [abs_of_nonneg (not_lt.mp h)]; exact if_neg h

theorem sumTo_rat (n : Nat) (g : Nat → Rat) : @sumTo Rat (ratOps f) n g = rsum n g := by
  induction n with
  | zero => rfl
  | succ k ih => rw [rsum, ← ih]; rfl

theorem sumTo_re (n : Nat) (g : Nat → Dual) :
    letI := dualOps f
    (sumTo n g).re = rsum n (fun k => (g k).re) := by
  induction n with
  | zero => simp [sumTo, rsum]
  | succ k ih => simp only [sumTo, rsum, d_add_re, ih]

end dual

/-! ## the additions to `LGAMMA` and the parameter loop -/

/-- weighted sum of the first-order parts of a list of additions -/
def wsum (m : Nat → Rat) (T : List (Nat × Dual)) : Rat :=
  match T with
  | [] => 0
  | t :: rest => m t.1 * t.2.eps + wsum m rest

theorem wsum_append (m : Nat → Rat) (A B : List (Nat × Dual)) : wsum m (A ++ B) = wsum m A + wsum m B := by
  induction A with
  | nil => simp [wsum]
  | cons a A ih => simp only [List.cons_append, wsum, ih]; ring

/-- `Σ_k m_k · ε(LGAMMA[k])` over the species equals the weighted sum over the additions -/
theorem rsum_addTerms (f : TransFns Rat) (n : Nat) (m : Nat → Rat) (T : List (Nat × Dual)) (acc : Nat → Dual)
    (h : ∀ t ∈ T, t.1 < n) :
    letI := dualOps f
    rsum n (fun k => m k * (addTerms T k (acc k)).eps) = rsum n (fun k => m k * (acc k).eps) + wsum m T := by
  induction T generalizing acc with
  | nil => simp [addTerms, wsum]
  | cons t T ih =>
    have ht : t.1 < n := h t (by simp)
    have hT : ∀ t' ∈ T, t'.1 < n := fun t' ht' => h t' (by simp [ht'])
    have step := ih (fun k => if t.1 = k then acc k + t.2 else acc k) hT
    simp only [addTerms, List.foldl_cons] at step ⊢
    rw [step]
    have : (fun k => m k * (if t.1 = k then acc k + t.2 else acc k).eps)
        = (fun k => m k * (acc k).eps + (if t.1 = k then m t.1 * t.2.eps else 0)) := by
      funext k
      by_cases hk : t.1 = k
      · subst hk; simp; ring
      · simp [hk]
    rw [this, rsum_add, rsum_ite n t.1 _ ht]
    simp only [wsum]; ring

/-- a loop that adds `t x` to the list of additions and `g₁ x`, `g₂ x`, `g₃ x` to three accumulators keeps the balance
`wsum + c₁·ε(acc₁) + c₂·ε(acc₂) − 2·ε(acc₃)` when every element does -/
theorem loop_balance (f : TransFns Rat) (m : Nat → Rat) {β : Type} (l : List β) (t : β → List (Nat × Dual))
    (g₁ g₂ g₃ : β → Dual) (c₁ c₂ : Rat)
    (h : ∀ x ∈ l, wsum m (t x) + c₁ * (g₁ x).eps + c₂ * (g₂ x).eps = 2 * (g₃ x).eps) (a₁ a₂ a₃ : Dual) :
    letI := dualOps f
    wsum m (l.flatMap t) + c₁ * (l.foldl (fun a x => a + g₁ x) a₁).eps + c₂ * (l.foldl (fun a x => a + g₂ x) a₂).eps
        - 2 * (l.foldl (fun a x => a + g₃ x) a₃).eps
      = c₁ * a₁.eps + c₂ * a₂.eps - 2 * a₃.eps := by
  induction l generalizing a₁ a₂ a₃ with
  | nil => simp [wsum]
  | cons x l ih =>
    have hx := h x (by simp)
    have ih' := ih (fun y hy => h y (by simp [hy])) (a₁ + g₁ x) (a₂ + g₂ x) (a₃ + g₃ x)
    simp only [List.flatMap_cons, List.foldl_cons, wsum_append, d_add_eps] at ih' ⊢
    linear_combination hx + ih'

/-! ## `pitzer_tidy` -/

/-- every multiplier `pitzer_tidy` gives a μ parameter equals its `os_coef` -/
theorem muLn_eq_muOs {α : Type} [NumOps α] (nt : Nat → Bool) (i0 i1 i2 j : Nat) (hj : j = i0 ∨ j = i1 ∨ j = i2) :
    (muLn i0 i1 i2 j (nt j) : α) = muOs i0 i1 i2 (nt i0) (nt i1) (nt i2) := by
  unfold muLn muOs cnt
  by_cases h01 : i0 = i1
  · subst h01
    by_cases h02 : i0 = i2
    · subst h02
      have : j = i0 := by rcases hj with h | h | h <;> exact h
      subst this
      cases nt j <;> simp
    · have h20 : ¬ i2 = i0 := Ne.symm h02
      rcases hj with rfl | rfl | rfl <;> simp [h02, h20]
  · have h10 : ¬ i1 = i0 := Ne.symm h01
    by_cases h02 : i0 = i2
    · subst h02
      rcases hj with rfl | rfl | rfl <;> simp [h01, h10]
    · have h20 : ¬ i2 = i0 := Ne.symm h02
      by_cases h12 : i1 = i2
      · subst h12
        rcases hj with rfl | rfl | rfl <;> simp [h01, h10]
      · have h21 : ¬ i2 = i1 := Ne.symm h12
        rcases hj with rfl | rfl | rfl <;> simp [h01, h10, h02, h20, h12, h21]

/-- what the Gibbs–Duhem identity needs of the multipliers: a λ parameter enters `LGAMMA` with twice its `os_coef`, a μ
parameter with its `os_coef`.  The multipliers `pitzer_tidy` computes (`PParam.tidy` in `Properties/C16.lean`) are of this
kind: `PParam.tidy.balanced`, through `muLn_eq_muOs`. -/
def PParam.balanced (p : PParam Rat) : Prop :=
  (p.type = .lambda → p.ln0 = 2 * p.os ∧ p.ln1 = 2 * p.os) ∧
  (p.type = .mu → p.ln0 = p.os ∧ p.ln1 = p.os ∧ p.ln2 = p.os)

/-! ## the Clenshaw recurrences of `ETHETA_PARAMS` on dual numbers -/

section cheb
variable (f : TransFns Rat)

/-- invariant of the recurrence run on `z + e·ε` with constant coefficients: the real parts follow the run on `z`, and
the first-order parts of `BK` are `e` times the `DK` of the run on `z` -/
structure CInv (e : Rat) (sD : CS Dual) (s : CS Rat) : Prop where
  b0_re : sD.b0.re = s.b0
  b1_re : sD.b1.re = s.b1
  b2_re : sD.b2.re = s.b2
  b0_eps : sD.b0.eps = e * s.d0
  b1_eps : sD.b1.eps = e * s.d1
  b2_eps : sD.b2.eps = e * s.d2

theorem csStep_inv (z e a : Rat) (sD : CS Dual) (s : CS Rat) (h : CInv e sD s) :
    letI := dualOps f
    CInv e (csStep (Dual.mk z e) (Dual.const a) sD) (@csStep Rat (ratOps f) z a s) := by
  refine ⟨?_, h.b0_re, h.b1_re, ?_, h.b0_eps, h.b1_eps⟩
  · simp [csStep, h.b0_re, h.b1_re]
  · simp [csStep, h.b0_re, h.b0_eps, h.b1_eps]; ring

/-- the recurrences run on `z + e·ε` with constant coefficients and `DK[20] = 0` -/
theorem csRun_inv (z e : Rat) (c : Nat → Rat) :
    letI := dualOps f
    CInv e (csRun (Dual.mk z e) (fun i => Dual.const (c i)) (Dual.const 0)) (@csRun Rat (ratOps f) z c 0) := by
  refine List.foldl_rel ⟨?_, rfl, rfl, ?_, ?_, ?_⟩ (fun i _ sD s h => csStep_inv f z e (c i) sD s h) <;> simp [csInit]

theorem ak_dual : (@akLow Dual (dualOps f)) = (@akLow Rat (ratOps f)).map Dual.const ∧
    (@akHigh Dual (dualOps f)) = (@akHigh Rat (ratOps f)).map Dual.const := by
  constructor
  · simp only [akLow, lit_dual, neg_const, rat_lit, List.map_cons, List.map_nil]
  · simp only [akHigh, lit_dual, neg_const, rat_lit, List.map_cons, List.map_nil]

theorem getD_map_const (l : List Rat) (i : Nat) :
    (l.map Dual.const).getD i (Dual.const 0) = Dual.const (l.getD i 0) := by
  simp only [List.getD_eq_getElem?_getD, List.getElem?_map]
  cases l[i]? <;> rfl

theorem akCoef_dual (X e : Rat) :
    @akCoef Dual (dualOps f) _ (Dual.mk X e) = fun i => Dual.const (@akCoef Rat (ratOps f) _ X i) := by
  funext i
  simp only [akCoef, d_le, lit_dual, d_const_re, rat_lit, (ak_dual f).1, (ak_dual f).2, getD_map_const]
  exact (apply_ite Dual.const _ _ _).symm

end cheb

end PhreeqcVerif.Pitzer
