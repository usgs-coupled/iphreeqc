import PhreeqcVerif.Model.Registry
import PhreeqcVerif.Lemmas.Assoc
/-!
The registry as a finite map.  `Reg.lookup` is the only observation the theorems make of `Reg.live`; each operation is
characterised here by the lookups and the counter after it and by its result, without hypotheses (`create` returns `r.next`
by definition), so that the registry, scheduling and settings theorems never look at the association list itself.
-/
namespace PhreeqcVerif.Registry

theorem lookup_neg {σ} (r : Reg σ) (id : Int) (h : id < 0) : r.lookup id = none := by
  simp [Reg.lookup, h]

theorem lookup_nonneg {σ} (r : Reg σ) (id : Int) (h : ¬ id < 0) : r.lookup id = r.live.lookup id.toNat := by
  simp [Reg.lookup, h]

theorem not_neg_of_lookup {σ} {r : Reg σ} {id : Int} {s : σ} (h : r.lookup id = some s) : ¬ id < 0 :=
  fun hid => by simp [lookup_neg r id hid] at h

/-- the list is keyed by `Nat`, the registry is asked with an `Int`: an update of the list at the key of a non-negative `id`
is the same update of the registry at `id` -/
theorem lookup_of_live {σ} {r r' : Reg σ} {id : Int} (hid : ¬ id < 0) {x : Option σ}
    (h : ∀ a, r'.live.lookup a = if a = id.toNat then x else r.live.lookup a) (j : Int) :
    r'.lookup j = if j = id then x else r.lookup j := by
  by_cases hj : j < 0
  · rw [lookup_neg _ j hj, lookup_neg _ j hj, if_neg (by omega)]
  · rw [lookup_nonneg _ j hj, lookup_nonneg _ j hj, h]
    congr 1
    exact propext (by omega)

theorem destroy_of_none {σ} {r : Reg σ} {id : Int} (h : r.lookup id = none) : r.destroy id = (r, -6) := by
  rw [Reg.destroy, h]

theorem apply_of_none {σ ρ} {r : Reg σ} {id : Int} (f : σ → σ × ρ) (bad : ρ) (h : r.lookup id = none) :
    r.apply id f bad = (r, bad) := by
  rw [Reg.apply, h]

theorem lookup_create {σ} (r : Reg σ) (fresh : Nat → σ) (j : Int) :
    (r.create fresh).1.lookup j = if j = r.next then some (fresh r.next) else r.lookup j :=
  lookup_of_live (by omega) (fun a => Assoc.lookup_cons r.live a r.next _) j

theorem lookup_destroy {σ} (r : Reg σ) (id j : Int) :
    (r.destroy id).1.lookup j = if j = id then none else r.lookup j := by
  cases hl : r.lookup id with
  | none =>
    rw [destroy_of_none hl]
    split
    · subst_vars; exact hl
    · rfl
  | some s =>
    rw [Reg.destroy, hl]
    exact lookup_of_live (not_neg_of_lookup hl) (fun a => Assoc.lookup_filter_ne r.live a _) j

theorem lookup_apply {σ ρ} (r : Reg σ) (id j : Int) (f : σ → σ × ρ) (bad : ρ) :
    (r.apply id f bad).1.lookup j = if j = id then (r.lookup id).map (fun s => (f s).1) else r.lookup j := by
  cases hl : r.lookup id with
  | none =>
    rw [apply_of_none f bad hl]
    split
    · subst_vars; exact hl
    · rfl
  | some s =>
    have hid := not_neg_of_lookup hl
    rw [Reg.apply, hl]
    refine lookup_of_live hid (fun a => ?_) j
    rw [Assoc.lookup_map_update, ← lookup_nonneg r id hid, hl]
    rfl

theorem destroy_snd {σ} (r : Reg σ) (id : Int) : (r.destroy id).2 = if (r.lookup id).isSome then 0 else -6 := by
  cases h : r.lookup id with
  | none => rw [destroy_of_none h]; rfl
  | some s => rw [Reg.destroy, h]; rfl

theorem apply_snd {σ ρ} (r : Reg σ) (id : Int) (f : σ → σ × ρ) (bad : ρ) :
    (r.apply id f bad).2 = ((r.lookup id).map fun s => (f s).2).getD bad := by
  cases h : r.lookup id with
  | none => rw [apply_of_none f bad h]; rfl
  | some s => rw [Reg.apply, h]; rfl

theorem next_destroy {σ} (r : Reg σ) (id : Int) : (r.destroy id).1.next = r.next := by
  unfold Reg.destroy; split <;> rfl

theorem next_apply {σ ρ} (r : Reg σ) (id : Int) (f : σ → σ × ρ) (bad : ρ) : (r.apply id f bad).1.next = r.next := by
  unfold Reg.apply; split <;> rfl

theorem next_le_step {σ} (fresh : Nat → σ) (r : Reg σ) (op : Op σ) : r.next ≤ (r.step fresh op).next := by
  cases op with
  | create => exact Nat.le_succ _
  | destroy id => exact Nat.le_of_eq (next_destroy r id).symm
  | call id f => exact Nat.le_of_eq (next_apply r id _ _).symm

theorem Reg.Inv.init {σ} : (Reg.init : Reg σ).Inv := ⟨nofun, List.nodup_nil⟩

theorem Reg.Inv.create {σ} {r : Reg σ} (h : r.Inv) (fresh : Nat → σ) : (r.create fresh).1.Inv := by
  constructor
  · intro p hp
    rcases List.mem_cons.1 hp with rfl | hp
    · exact Nat.lt_succ_self _
    · exact Nat.lt_succ_of_lt (h.below p hp)
  · refine List.nodup_cons.2 ⟨fun hm => ?_, h.nodup⟩
    obtain ⟨p, hp, he⟩ := List.mem_map.1 hm
    exact Nat.lt_irrefl _ (he ▸ h.below p hp)

theorem Reg.Inv.destroy {σ} {r : Reg σ} (h : r.Inv) (id : Int) : (r.destroy id).1.Inv := by
  unfold Reg.destroy
  split
  · exact ⟨fun p hp => h.below p (List.mem_filter.1 hp).1, (List.filter_sublist.map _).nodup h.nodup⟩
  · exact h

theorem Reg.Inv.apply {σ ρ} {r : Reg σ} (h : r.Inv) (id : Int) (f : σ → σ × ρ) (bad : ρ) :
    (r.apply id f bad).1.Inv := by
  unfold Reg.apply
  split
  · -- the update keeps every key
    have key : ∀ (s' : σ) (p : Nat × σ), (if p.1 = id.toNat then (p.1, s') else p).1 = p.1 := by
      intro s' p; split <;> rfl
    constructor
    · intro p hp
      obtain ⟨q, hq, rfl⟩ := List.mem_map.1 hp
      rw [key]; exact h.below q hq
    · simpa only [List.map_map, Function.comp_def, key] using h.nodup
  · exact h

/-- an id at or above the counter was never issued -/
theorem Reg.Inv.lookup_of_next_le {σ} {r : Reg σ} (h : r.Inv) {id : Int} (hid : (r.next : Int) ≤ id) :
    r.lookup id = none := by
  rw [lookup_nonneg r id (by omega), List.lookup_eq_none_iff]
  intro p hp
  have := h.below p hp
  simp; omega

end PhreeqcVerif.Registry
