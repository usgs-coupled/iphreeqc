import Lean.Meta.Tactic.Simp.RegisterCommand
/-! The development's own `simp` sets (an attribute cannot be used in the module that declares it). -/

/-- the members of `NumOps` at the instance `ratOps f` (Lemmas/NumOps.lean) -/
register_simp_attr rat_ops

/-- real and first-order part of a dual number built with the operations of `dualOps f` (Lemmas/Gamma.lean; those of
`sqrt`, `ln`, `exp` in Properties/C16.lean) -/
register_simp_attr dual_ops
