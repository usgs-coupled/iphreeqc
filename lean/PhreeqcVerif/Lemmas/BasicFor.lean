import PhreeqcVerif.Model.BasicExec
import Mathlib.Tactic.NormNum
import Mathlib.Tactic.Ring
import Mathlib.Algebra.Order.Field.Rat
/-! Lemmas for C17: FOR/NEXT control (`forSkips`, `nextContinues`, `forBody`, `forLoop` of `Model/BasicExec.lean`) in
exact arithmetic, i.e. over `ratNum F` for arbitrary uninterpreted libm functions `F`. -/
namespace PhreeqcVerif.Basic
variable (F : RatFns)

@[simp] theorem le_rat (x y : Rat) : @BNum.le Rat (ratNum F) x y = decide (x ≤ y) := rfl
@[simp] theorem lt_rat (x y : Rat) : @BNum.lt Rat (ratNum F) x y = decide (x < y) := rfl
@[simp] theorem add_rat (x y : Rat) : @BNum.add Rat (ratNum F) x y = x + y := rfl
@[simp] theorem ofInt_rat (i : Int) : @BNum.ofInt Rat (ratNum F) i = (i : Rat) := rfl

/-! With the sign of the step known, each of the two tests is a single comparison. -/

theorem forSkips_pos {s : Rat} (hs : 0 < s) (v b : Rat) : @forSkips Rat (ratNum F) v b s = decide (b < v) := by
  simp [forSkips, BNum.ge, BNum.gt, BNum.zero, hs.le, not_le.mpr hs]

theorem forSkips_neg {s : Rat} (hs : s < 0) (v b : Rat) : @forSkips Rat (ratNum F) v b s = decide (v < b) := by
  simp [forSkips, BNum.ge, BNum.gt, BNum.zero, hs.le, not_le.mpr hs]

theorem nextContinues_pos {s : Rat} (hs : 0 < s) (v b : Rat) :
    @nextContinues Rat (ratNum F) v b s = decide (v ≤ b) := by
  simp [nextContinues, BNum.ge, BNum.gt, BNum.zero, hs, not_lt.mpr hs.le]

theorem nextContinues_neg {s : Rat} (hs : s < 0) (v b : Rat) :
    @nextContinues Rat (ratNum F) v b s = decide (b ≤ v) := by
  simp [nextContinues, BNum.ge, BNum.gt, BNum.zero, hs, not_lt.mpr hs.le]

theorem forBody_succ (b s v : Rat) (f : Nat) :
    @forBody Rat (ratNum F) b s (f + 1) v =
      (if @nextContinues Rat (ratNum F) (v + s) b s then
        (v :: (@forBody Rat (ratNum F) b s f (v + s)).1, (@forBody Rat (ratNum F) b s f (v + s)).2)
       else ([v], v + s)) := by
  simp [forBody]

/-- Whatever the sign of the step: if NEXT goes round at `v + s, …, v + n·s` and stops at `v + (n+1)·s`, the body
runs `n + 1` times. -/
theorem forBody_count (b s : Rat) :
    ∀ (n : Nat) (v : Rat) (fuel : Nat), n < fuel →
      (∀ i : Nat, 1 ≤ i → i ≤ n → @nextContinues Rat (ratNum F) (v + (i : Rat) * s) b s = true) →
      @nextContinues Rat (ratNum F) (v + ((n + 1 : Nat) : Rat) * s) b s = false →
      @forBody Rat (ratNum F) b s fuel v
        = ((List.range (n + 1)).map (fun (i : Nat) => v + (i : Rat) * s), v + ((n + 1 : Nat) : Rat) * s) := by
  intro n
  induction n with
  | zero =>
    intro v fuel hfuel _ hstop
    obtain ⟨f, rfl⟩ : ∃ f, fuel = f + 1 := ⟨fuel - 1, by omega⟩
    rw [Nat.zero_add, Nat.cast_one, one_mul] at hstop ⊢
    simp [forBody_succ, hstop]
  | succ n ih =>
    intro v fuel hfuel hgo hstop
    obtain ⟨f, rfl⟩ : ∃ f, fuel = f + 1 := ⟨fuel - 1, by omega⟩
    have shift : ∀ i : Nat, v + s + (i : Rat) * s = v + ((i + 1 : Nat) : Rat) * s := fun i => by
      push_cast; ring
    have hfirst := hgo 1 (Nat.le_refl 1) (Nat.le_add_left 1 n)
    rw [Nat.cast_one, one_mul] at hfirst
    have := ih (v + s) f (by omega)
      (fun i h1 hi => by rw [shift]; exact hgo (i + 1) (Nat.le_add_left 1 i) (Nat.succ_le_succ hi))
      (by rw [shift]; exact hstop)
    rw [forBody_succ, hfirst, if_pos rfl, this, shift, List.range_succ_eq_map (n := n + 1)]
    simp [shift, Function.comp_def]

end PhreeqcVerif.Basic
