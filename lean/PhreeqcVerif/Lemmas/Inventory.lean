import PhreeqcVerif.Model.Inventory
/-! Lemmas about `NameDouble.get` (amount stored under a key) on contribution lists and on the maps built by `add`,
the bookkeeping lemmas of `Totals` and of the phase transfers of `add_pp_assemblage` / `add_ss_assemblage`, and
`stepAmount` for a step inside the list or the count. -/
namespace PhreeqcVerif.NameDouble

theorem get_nil (e : String) : get [] e = 0 := rfl

theorem get_cons (k : String) (v : Rat) (t : ND) (e : String) :
    get ((k, v) :: t) e = (if k = e then v else 0) + get t e := rfl

theorem get_append (a b : ND) (e : String) : get (a ++ b) e = get a e + get b e := by
  induction a with
  | nil => exact (Rat.zero_add _).symm
  | cons p t ih => rw [List.cons_append, get, get, ih, Rat.add_assoc]

theorem get_cons_add (k : String) (a v : Rat) (t : ND) (e : String) :
    get ((k, a + v) :: t) e = get ((k, a) :: t) e + (if k = e then v else 0) := by
  simp only [get_cons]
  split
  · rw [Rat.add_assoc, Rat.add_comm v, ← Rat.add_assoc]
  · exact (Rat.add_zero _).symm

theorem get_append_cons_add (pre : ND) (k : String) (a v : Rat) (t : ND) (e : String) :
    get (pre ++ (k, a + v) :: t) e = get (pre ++ (k, a) :: t) e + (if k = e then v else 0) := by
  rw [get_append, get_append, get_cons_add, Rat.add_assoc]

theorem get_add (m : ND) (k : String) (v : Rat) (e : String) :
    get (add m k v) e = get m e + (if k = e then v else 0) := by
  induction m with
  | nil => exact Rat.add_comm _ _
  | cons p t ih =>
    obtain ⟨k', v'⟩ := p
    rw [add]
    split
    · next h => subst h; exact get_cons_add k v' v t e
    split
    · exact Rat.add_comm _ _
    · rw [get_cons, ih, ← Rat.add_assoc]; rfl

theorem get_foldl_add (l : List (String × Rat)) (m : ND) (e : String) :
    get (l.foldl (fun acc p => add acc p.1 p.2) m) e = get m e + get l e := by
  induction l generalizing m with
  | nil => exact (Rat.add_zero _).symm
  | cons p t ih => rw [List.foldl_cons, ih, get_add, Rat.add_assoc]; rfl

theorem get_ofList (l : List (String × Rat)) (e : String) : get (ofList l) e = get l e := by
  rw [ofList, get_foldl_add, get_nil, Rat.zero_add]

theorem get_map_mul (l : List (String × Rat)) (x : Rat) (e : String) :
    get (l.map fun p => (p.1, p.2 * x)) e = get l e * x := by
  induction l with
  | nil => exact (Rat.zero_mul _).symm
  | cons p t ih =>
    rw [List.map_cons, get, get, ih, Rat.add_mul]
    split
    · rfl
    · rw [Rat.zero_mul]

theorem get_multiply (m : ND) (f : Rat) (e : String) : get (multiply m f) e = get m e * f := get_map_mul m f e

theorem get_addExtensive (m a : ND) (f : Rat) (e : String) : get (addExtensive m a f) e = get m e + get a e * f := by
  unfold addExtensive
  split
  · next h => rw [h, Rat.mul_zero, Rat.add_zero]
  · rw [← get_map_mul, ← get_foldl_add, List.foldl_map]

theorem get_flatMap_cons {α} (f : α → ND) (a : α) (l : List α) (e : String) :
    get ((a :: l).flatMap f) e = get (f a) e + get (l.flatMap f) e := by
  rw [List.flatMap_cons, get_append]

theorem get_flatMap_append {α} (f : α → ND) (l1 l2 : List α) (e : String) :
    get ((l1 ++ l2).flatMap f) e = get (l1.flatMap f) e + get (l2.flatMap f) e := by
  rw [List.flatMap_append, get_append]

theorem get_perm {l1 l2 : ND} (h : l1.Perm l2) (e : String) : get l1 e = get l2 e := by
  induction h with
  | nil => rfl
  | cons x _ ih => rw [get, get, ih]
  | swap x y l => exact Rat.add_left_comm _ _ _
  | trans _ _ ih1 ih2 => exact ih1.trans ih2

theorem get_flatMap_perm {α} (f : α → ND) {l1 l2 : List α} (h : l1.Perm l2) (e : String) :
    get (l1.flatMap f) e = get (l2.flatMap f) e := get_perm (h.flatMap_right f) e

end PhreeqcVerif.NameDouble

namespace PhreeqcVerif.Inventory
open PhreeqcVerif.NameDouble

theorem get_amountContribs (a : Amount) (e : String) :
    NameDouble.get (amountContribs a) e = NameDouble.get a.formula e * a.moles := get_map_mul a.formula a.moles e

theorem get_inventory (c : Cell) (e : String) : get (inventory c) e = get (contribs c) e := get_ofList _ e

theorem get_contribs_kin (c : Cell) (e : String) : NameDouble.get (contribs c) e =
    NameDouble.get (contribs { c with kin := [] }) e + NameDouble.get (c.kin.flatMap kinCompContribs) e := by
  simp only [contribs, get_append, List.flatMap_nil, get_nil, Rat.add_zero]

theorem get_optContribs_orElse {α} (f : α → ND) (a b : Option α) (h : a = none ∨ b = none) (e : String) :
    get (optContribs f (a.orElse fun _ => b)) e = get (optContribs f a) e + get (optContribs f b) e := by
  cases a with
  | none => exact (Rat.zero_add _).symm
  | some x =>
    rw [h.resolve_left (Option.some_ne_none x)]
    exact (Rat.add_zero _).symm

theorem solContribs_eq (ext : Rat) (s : Solution) : solContribs ext s = multiply (solContribs 1 s) ext := by
  unfold solContribs multiply
  rw [List.map_append, List.map_filterMap]
  simp only [List.map_cons, List.map_nil, Rat.mul_one]
  refine congrArg (_ ++ List.filterMap · _) (funext fun p => ?_)
  split <;> rfl

theorem Totals.get_addElt (t : Totals) (k : String) (v : Rat) (e : String) :
    (t.addElt k v).get e = t.get e + (if k = e then v else 0) := by
  unfold Totals.addElt
  split
  · next h => subst h; exact get_cons_add "H" t.h v _ e
  split
  · next h => subst h; exact get_append_cons_add [("H", t.h)] "O" t.o v _ e
  split
  · next h => subst h; exact get_append_cons_add [("H", t.h), ("O", t.o)] "Charge" t.cb v _ e
  · show NameDouble.get ([("H", t.h), ("O", t.o), ("Charge", t.cb)] ++ add t.masters k v) e = _
    rw [get_append, get_add, ← Rat.add_assoc, ← get_append]
    rfl

theorem Totals.get_addList (l : List (String × Rat)) (t : Totals) (e : String) :
    (t.addList l).get e = t.get e + NameDouble.get l e := by
  induction l generalizing t with
  | nil => exact (Rat.add_zero _).symm
  | cons p rest ih =>
    show ((t.addElt p.1 p.2).addList rest).get e = _
    rw [ih, Totals.get_addElt, Rat.add_assoc]
    rfl

theorem Totals.get_empty (e : String) : ({} : Totals).get e = 0 := by
  simp only [Totals.get, Totals.asList, List.append_nil, get_cons, get_nil, ite_self, Rat.add_zero]

theorem transferOne_conserves (minTotal : Rat) (t : Totals) (a : Amount) (e : String) :
    (transferOne minTotal t a).1.get e + NameDouble.get (amountContribs (transferOne minTotal t a).2) e =
      t.get e + NameDouble.get (amountContribs a) e := by
  unfold transferOne
  split
  · rfl
  dsimp only
  split
  · simp only [Totals.get_addList, get_amountContribs, get_map_mul]
    grind
  · rfl

theorem transferAll_conserves (minTotal : Rat) (l : List Amount) (t : Totals) (e : String) :
    (transferAll minTotal t l).1.get e + NameDouble.get ((transferAll minTotal t l).2.flatMap amountContribs) e =
      t.get e + NameDouble.get (l.flatMap amountContribs) e := by
  induction l generalizing t with
  | nil => rfl
  | cons a rest ih =>
    have h1 := transferOne_conserves minTotal t a e
    have h2 := ih (transferOne minTotal t a).1
    simp only [transferAll, get_flatMap_cons]
    grind

theorem transferAll_get (minTotal : Rat) (l : List Amount) (t : Totals) (e : String) :
    (transferAll minTotal t l).1.get e = t.get e + NameDouble.get (l.flatMap amountContribs) e -
      NameDouble.get ((transferAll minTotal t l).2.flatMap amountContribs) e := by
  rw [← transferAll_conserves, Rat.add_sub_cancel]

theorem absR_neg (x : Rat) : absR (-x) = absR x := by
  unfold absR
  grind

theorem sum_take_succ (l : List Rat) (k : Nat) : (l.take (k + 1)).sum = (l.take k).sum + l.getD k 0 := by
  rw [List.take_add_one, List.sum_append, List.getD]
  cases l[k]? with
  | none => rfl
  | some x => simp only [Option.toList_some, List.sum_cons, List.sum_nil, Rat.add_zero, Option.getD_some]

/-- list of amounts, step `n` inside the list: both modes take entry `n` -/
theorem stepAmount_list (inc : Bool) (r : Reaction) (heq : r.equal = false) {n : Nat} (h1 : 1 ≤ n)
    (hn : n ≤ r.steps.length) : stepAmount inc r n = r.steps.getD (n - 1) 0 * r.unitFactor := by
  have hl : r.steps.length ≠ 0 := by omega
  have hk : ¬ n > r.steps.length := by omega
  cases inc <;>
    simp only [stepAmount, Reaction.reactionSteps, heq, hl, hk, if_false, Bool.not_false, Bool.not_true,
      Bool.false_eq_true, if_true]

/-- equal increments, step `n` inside the count -/
theorem stepAmount_equal (r : Reaction) (heq : r.equal = true) (hs : r.steps.length ≠ 0) {n : Nat} (hn : n ≤ r.count) :
    stepAmount true r n = r.steps.getD 0 0 / r.count * r.unitFactor ∧
    stepAmount false r n = r.steps.getD 0 0 * n / r.count * r.unitFactor := by
  have hk : ¬ n > r.count := by omega
  simp only [stepAmount, Reaction.reactionSteps, heq, hs, hk, if_false, if_true, Bool.not_false, Bool.not_true,
    Bool.false_eq_true, and_self]

end PhreeqcVerif.Inventory
