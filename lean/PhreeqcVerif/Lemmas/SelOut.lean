import PhreeqcVerif.Model.SelOut
/-! Helper lemmas for the selected-output table model: `findCol` is `List.idxOf?`, `modifyNth` is `List.modify`,
and what `putCell` and `padTo` do to a column. -/
namespace PhreeqcVerif.SelOut

theorem findCol_eq_idxOf? (hs : List String) (k : String) : findCol hs k = hs.idxOf? k := by
  induction hs with
  | nil => rfl
  | cons h hs ih => simp [findCol, List.idxOf?_cons, ih]

theorem findCol_some {hs : List String} {k : String} {i : Nat} (h : findCol hs k = some i) :
    i < hs.length ∧ hs.getD i "" = k := by
  rw [findCol_eq_idxOf?, List.idxOf?, List.findIdx?_eq_some_iff_getElem] at h
  obtain ⟨hi, hk, _⟩ := h
  exact ⟨hi, by simpa [hi] using hk⟩

theorem findCol_none {hs : List String} {k : String} (h : findCol hs k = none) : k ∉ hs := by
  rwa [findCol_eq_idxOf?, List.idxOf?_eq_none_iff] at h

theorem findCol_append_self {hs : List String} {k : String} (h : findCol hs k = none) :
    findCol (hs ++ [k]) k = some hs.length := by
  rw [findCol_eq_idxOf?, List.idxOf?] at h ⊢
  simp [List.findIdx?_append, h]

theorem modifyNth_eq_modify {α} (f : α → α) (l : List α) (n : Nat) : modifyNth f l n = l.modify n f := by
  induction l generalizing n with
  | nil => simp [modifyNth]
  | cons x xs ih => cases n <;> simp [modifyNth, ih]

theorem modifyNth_getD {α} (f : α → α) (l : List α) (n i : Nat) (d : α) (hn : n < l.length) :
    (modifyNth f l n).getD i d = if i = n then f (l.getD i d) else l.getD i d := by
  by_cases h : i = n
  · subst h; simp [modifyNth_eq_modify, List.getD_eq_getElem?_getD, hn]
  · simp [modifyNth_eq_modify, List.getD_eq_getElem?_getD, List.getElem?_modify_ne, Ne.symm h, h]

theorem mem_modifyNth {α} {f : α → α} {l : List α} {n : Nat} {y : α}
    (h : y ∈ modifyNth f l n) : y ∈ l ∨ ∃ x ∈ l, y = f x := by
  rw [modifyNth_eq_modify, List.mem_iff_getElem] at h
  obtain ⟨i, hi, rfl⟩ := h
  rw [List.getElem_modify]
  rw [List.length_modify] at hi
  split
  · exact .inr ⟨l[i], List.getElem_mem hi, rfl⟩
  · exact .inl (List.getElem_mem hi)

theorem padTo_length (n : Nat) (c : List Var) : (padTo n c).length = max n c.length := by
  rw [padTo, List.length_append, List.length_replicate]
  by_cases h : c.length ≤ n
  · rw [Nat.add_sub_cancel' h, Nat.max_eq_left h]
  · rw [Nat.sub_eq_zero_of_le (Nat.le_of_not_le h), Nat.add_zero, Nat.max_eq_right (Nat.le_of_not_le h)]

theorem putCell_length (r : Nat) (v : Var) (c : List Var)
    (h : c.length = r ∨ c.length = r + 1) : (putCell r v c).length = r + 1 := by
  unfold putCell
  by_cases e : c.length = r
  · rw [if_pos e, List.length_append, e]; rfl
  · rw [if_neg e, List.length_set]; exact h.resolve_left e

theorem putCell_getD (r : Nat) (v : Var) (c : List Var) (h : c.length = r ∨ c.length = r + 1) (i : Nat) (d : Var) :
    (putCell r v c).getD i d = if i = r then v else c.getD i d := by
  simp only [putCell, List.getD_eq_getElem?_getD]
  by_cases e : c.length = r
  · -- the cell is appended: `i` is an old index, the new one, or beyond both lists
    subst e
    rw [if_pos rfl]
    rcases Nat.lt_trichotomy i c.length with hi | hi | hi
    · rw [List.getElem?_append_left hi, if_neg (Nat.ne_of_lt hi)]
    · rw [hi, List.getElem?_concat_length, if_pos rfl]; rfl
    · rw [if_neg (Nat.ne_of_gt hi), List.getElem?_eq_none (Nat.le_of_lt hi),
        List.getElem?_eq_none (by rw [List.length_append]; exact hi)]
  · have hr : r < c.length := by rw [h.resolve_left e]; exact Nat.lt_succ_self r
    rw [if_neg e, List.getElem?_set]
    by_cases hi : r = i
    · subst hi; simp [hr]
    · rw [if_neg hi, if_neg (Ne.symm hi)]

end PhreeqcVerif.SelOut
