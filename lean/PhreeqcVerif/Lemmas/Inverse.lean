import PhreeqcVerif.Model.Inverse
/-! Lemmas for C18 about `Model/Inverse.lean`, in the order of that file; core Lean only, so facts about `Rat` are
cited by name. The executable checks are their declarative clauses (`checkModel_iff`); a row of `setupMatrix` says of a
vector that satisfies it what `eval_mbRow` and `Problem.Satisfies.le_two` state; `argmin_le`/`le_argmax` are the two
halves of every statement about `range`; the `tidy_inverse` folds leave alone the rows no entry names. Last the subset
search: under `OracleOK` the state of `search` keeps `Inv`, which says that the reported sets are the minimal feasible
sets found (`IsMin`), and two different ones are incomparable (`IsMin.not_sub`). -/
namespace PhreeqcVerif.Inverse

/-! ## sums -/

theorem sumR_append (a b : List Rat) : sumR (a ++ b) = sumR a + sumR b := by
  induction a with
  | nil => exact (Rat.zero_add _).symm
  | cons x l ih => simp only [List.cons_append, sumR, ih, Rat.add_assoc]

theorem sumR_map_add {α : Type} (l : List α) (f g : α → Rat) :
    sumR (l.map fun a => f a + g a) = sumR (l.map f) + sumR (l.map g) := by
  induction l with
  | nil => exact (Rat.zero_add _).symm
  | cons x l ih =>
    simp only [List.map_cons, sumR, ih]
    rw [Rat.add_assoc, Rat.add_assoc, Rat.add_left_comm (g x)]

/-! ## absR -/

/-- `absR` is the library's absolute value, written with the test the other way round -/
theorem absR_eq_abs (a : Rat) : absR a = a.abs := by
  unfold absR Rat.abs
  by_cases h : a < 0
  · rw [if_pos h, if_neg (Rat.not_le.2 h)]
  · rw [if_neg h, if_pos (Rat.not_lt.1 h)]

theorem absR_zero : absR 0 = 0 := by simp [absR]

theorem absR_of_nonneg {a : Rat} (h : 0 ≤ a) : absR a = a := if_neg (Rat.not_lt.2 h)

theorem absR_of_nonpos {a : Rat} (h : a ≤ 0) : absR a = -a := absR_eq_abs a ▸ Rat.abs_of_nonpos h

theorem le_absR (a : Rat) : a ≤ absR a := by
  by_cases h : 0 ≤ a
  · rw [absR_of_nonneg h]; exact Rat.le_refl
  · exact Rat.le_trans (Rat.le_of_lt (Rat.not_le.1 h)) (absR_eq_abs a ▸ Rat.abs_nonneg)

theorem neg_le_absR (a : Rat) : -a ≤ absR a := by
  rw [absR_eq_abs, ← Rat.abs_neg, ← absR_eq_abs]; exact le_absR (-a)

theorem absR_le_zero {a : Rat} (h : absR a ≤ 0) : a = 0 :=
  Rat.abs_eq_zero_iff.1 (Rat.le_antisymm (absR_eq_abs a ▸ h) Rat.abs_nonneg)

/-! ## the executable checks

They are conjunctions of `all`s over `rng n` of `decide`s and of guards `!a || b`; `simp only` with `List.all_eq_true`,
`mem_rng`, `not_or_eq_true`, `decide_eq_true_eq` turns them into the declarative clauses. -/

theorem mem_rng {i n : Nat} : i ∈ rng n ↔ i < n := by simp [rng]

theorem not_or_eq_true (a b : Bool) : (!a || b) = true ↔ (a = true → b = true) := by
  cases a <;> simp

theorem ite_decide_eq_true {c P Q : Prop} [Decidable c] [Decidable P] [Decidable Q] :
    (if c then decide P else decide Q) = true ↔ (c → P) ∧ (¬ c → Q) := by
  by_cases h : c <;> simp [h]

theorem checkBalanced_iff (p : Problem) (t : Rat) (m : Model) : p.checkBalanced t m = true ↔ p.Balanced t m := by
  simp only [Problem.checkBalanced, Problem.allLt, Bool.and_eq_true, List.all_eq_true, mem_rng, not_or_eq_true,
    ite_decide_eq_true, decide_eq_true_eq]
  constructor
  · intro ⟨⟨⟨⟨hmb, heps⟩, hal⟩, hfin⟩, hph⟩
    exact ⟨hmb, fun q e hq he ha => (heps q hq e he ha).1, fun q e hq he ha => (heps q hq e he ha).2,
      fun q hq => hal q (by omega), hfin, fun i hi => (hph i hi).1, fun i hi => (hph i hi).2⟩
  · intro h
    exact ⟨⟨⟨⟨h.mb, fun q hq e he ha => ⟨h.epsUp q e hq he ha, h.epsLow q e hq he ha⟩⟩,
      fun q hq => h.alphaNonneg q (by omega)⟩, h.alphaFinal⟩, fun i hi => ⟨h.dissolve i hi, h.precipitate i hi⟩⟩

theorem checkRange_iff (p : Problem) (t : Rat) (m : Model) : p.checkRange t m = true ↔ p.InRange t m := by
  simp only [Problem.checkRange, Problem.allLt, Bool.and_eq_true, List.all_eq_true, mem_rng, decide_eq_true_eq]
  exact ⟨fun h => ⟨h.1, h.2⟩, fun h => ⟨h.alpha, h.phase⟩⟩

theorem checkModel_iff (p : Problem) (t : Rat) (m : Model) : p.checkModel t m = true ↔ p.Admissible t m := by
  simp only [Problem.checkModel, Bool.and_eq_true, not_or_eq_true, checkBalanced_iff, checkRange_iff,
    Problem.Admissible]

/-! ## the matrix -/

theorem eval_mbRow (p : Problem) (m : Model) (e : Nat) : (p.mbRow e).eval m.assign = p.mbRes m e := by
  simp only [Problem.mbRow, Row.eval, List.map_append, sumR_append, List.map_map]
  rfl

theorem decode_assign (x mn mx : Var → Rat) : (decode x mn mx).assign = x := by
  funext v; cases v <;> rfl

/-! ### which rows and unknowns the matrix has -/

theorem mbRow_mem (p : Problem) (e : Nat) (he : e < p.ne) : p.mbRow e ∈ p.eqRows := by
  simp only [Problem.eqRows, List.mem_append, List.mem_map, mem_rng]
  exact Or.inl (Or.inl (Or.inl (Or.inl ⟨e, he, rfl⟩)))

theorem fractRow_mem (p : Problem) : p.fractRow ∈ p.eqRows := by
  simp [Problem.eqRows]

theorem isoRow_mem (p : Problem) (n : Nat) (hn : n < p.nIso) : p.isoRow n ∈ p.eqRows := by
  simp only [Problem.eqRows, List.mem_append, List.mem_map, mem_rng]
  exact Or.inr ⟨n, hn, rfl⟩

theorem epsRows_mem (p : Problem) (q e : Nat) (hq : q < p.ns) (he : e < p.ne) (r : Row) (hr : r ∈ p.epsRows q e) :
    r ∈ p.leRows := by
  simp only [Problem.leRows, List.mem_append, List.mem_flatMap, mem_rng]
  exact Or.inl (Or.inl (Or.inl (Or.inl ⟨q, hq, e, he, hr⟩)))

theorem isoIneq_mem (p : Problem) (q k : Nat) (hq : q < p.ns) (hk : k < p.nIU) (r : Row) (hr : r ∈ p.isoIneqRows q k) :
    r ∈ p.leRows := by
  simp only [Problem.leRows, List.mem_append, List.mem_flatMap, mem_rng]
  exact Or.inl (Or.inr ⟨q, hq, k, hk, hr⟩)

theorem phisoIneq_mem (p : Problem) (i : Nat) (hi : i < p.np) (r : Row) (hr : r ∈ p.phisoIneqRows i) : r ∈ p.leRows := by
  simp only [Problem.leRows, List.mem_append, List.mem_flatMap, mem_rng]
  exact Or.inr ⟨i, hi, hr⟩

theorem soln_mem_vars (p : Problem) (q : Nat) (hq : q < p.ns) : Var.soln q ∈ p.vars := by
  simp only [Problem.vars, List.mem_append, List.mem_map, mem_rng]
  exact Or.inl (Or.inl (Or.inl (Or.inl (Or.inl (Or.inl (Or.inl ⟨q, hq, rfl⟩))))))

theorem phase_mem_vars (p : Problem) (i : Nat) (hi : i < p.np) : Var.phase i ∈ p.vars := by
  simp only [Problem.vars, List.mem_append, List.mem_map, mem_rng]
  exact Or.inl (Or.inl (Or.inl (Or.inl (Or.inl (Or.inl (Or.inr ⟨i, hi, rfl⟩))))))

theorem eps_mem_vars (p : Problem) (e q : Nat) (he : e < p.ne) (hq : q < p.ns) : Var.eps e q ∈ p.vars := by
  simp only [Problem.vars, List.mem_append, List.mem_map, List.mem_flatMap, mem_rng]
  exact Or.inl (Or.inl (Or.inl (Or.inl (Or.inr ⟨e, he, q, hq, rfl⟩))))

/-! ### what the bound rows say -/

theorem le_neg_of_add_nonpos {s t : Rat} (h : s + t ≤ 0) : s ≤ -t := by
  have := (Rat.add_le_add_right (c := -t)).2 h
  rwa [Rat.add_assoc, Rat.add_neg_cancel, Rat.add_zero, Rat.zero_add] at this

/-- every bound row (`epsRows`, `isoIneqRows`, `phisoIneqRows`) has two entries and right-hand side 0: each term is at
    most minus the other -/
theorem Problem.Satisfies.le_two {p : Problem} {x : Var → Rat} (h : p.Satisfies x) {v w : Var} {a b : Rat}
    (hr : ({ kind := .le, coeffs := [(v, a), (w, b)], rhs := 0 } : Row) ∈ p.leRows) :
    a * x v ≤ -(b * x w) ∧ b * x w ≤ -(a * x v) := by
  have hs := h.2.1 _ hr
  simp only [Row.eval, List.map_cons, List.map_nil, sumR, Rat.add_zero] at hs
  exact ⟨le_neg_of_add_nonpos hs, le_neg_of_add_nonpos (Rat.add_comm _ _ ▸ hs)⟩

theorem lowScale_pos (p : Problem) (q e : Nat) : 0 < p.lowScale q e := by
  unfold Problem.lowScale; split <;> decide

/-- the "eps-" row carries the factor `s = lowScale` in both entries: what it says is `s·(-ε) ≤ s·(L·α)` -/
theorem le_of_scaled_row {s L α ε : Rat} (hs : 0 < s) (h : -s * ε ≤ -(-L * s * α)) : -ε ≤ L * α := by
  rw [Rat.neg_mul, ← Rat.mul_neg] at h
  rw [Rat.neg_mul, Rat.neg_mul, Rat.neg_neg, Rat.mul_comm L, Rat.mul_assoc] at h
  exact Rat.le_of_mul_le_mul_left h hs

/-! ## bounds are the declared uncertainties -/

/-- an active column has a bound that survived the cut-off at `toler` -/
theorem bound_of_active (p : Problem) (q e : Nat) (ha : p.active q e = true) :
    p.bound q e = p.rawBound q e ∧ p.tol ≤ p.bound q e := by
  have hne : p.bound q e ≠ 0 := by
    simp only [Problem.active, Bool.and_eq_true, decide_eq_true_eq] at ha; exact ha.2
  unfold Problem.bound at hne ⊢
  by_cases h : p.rawBound q e < p.tol
  · rw [if_pos h] at hne; exact absurd rfl hne
  · rw [if_neg h]; exact ⟨rfl, Rat.not_lt.1 h⟩

theorem lowBound_le (p : Problem) (q e : Nat) (htol : 0 ≤ p.tol) (ha : p.active q e = true) :
    p.lowBound q e ≤ p.bound q e + p.tol := by
  have hge := (bound_of_active p q e ha).2
  unfold Problem.lowBound
  extract_lets c
  -- the cut-off `c` is at most the bound; the result is `c` or, when that is below `c`, `|T| + tol`
  have hc : c ≤ p.bound q e := iteInduction (motive := (· ≤ p.bound q e)) (fun _ => hge) fun _ => Rat.le_refl
  split
  next h =>
    rw [Bool.and_eq_true, decide_eq_true_eq] at h
    exact Rat.add_le_add_right.2 (Rat.le_trans (Rat.le_of_lt h.1) hc)
  next =>
    have := Rat.add_le_add_left (c := p.bound q e) |>.2 htol
    rw [Rat.add_zero] at this
    exact Rat.le_trans hc this

/-! ## ranges -/

/-- a minimiser `y` of `|z v + R|` over `F` lies at or below every member of `F` whose value is `≥ -R`: there the
    objective of the member is `x v + R` itself -/
theorem argmin_le (F : (Var → Rat) → Prop) (x y : Var → Rat) (v : Var) (R : Rat) (hx : F x) (hlo : -R ≤ x v)
    (hmin : ∀ z, F z → absR (y v + R) ≤ absR (z v + R)) : y v ≤ x v := by
  have h := hmin x hx
  rw [absR_of_nonneg (a := x v + R) (Rat.neg_add_cancel R ▸ Rat.add_le_add_right.2 hlo)] at h
  exact Rat.add_le_add_right.1 (Rat.le_trans (le_absR _) h)

theorem le_argmax (F : (Var → Rat) → Prop) (x y : Var → Rat) (v : Var) (R : Rat) (hx : F x) (hhi : x v ≤ R)
    (hmax : ∀ z, F z → absR (y v - R) ≤ absR (z v - R)) : x v ≤ y v := by
  have h := hmax x hx
  rw [Rat.sub_eq_add_neg, Rat.sub_eq_add_neg,
    absR_of_nonpos (a := x v + -R) (Rat.add_neg_cancel R ▸ Rat.add_le_add_right.2 hhi)] at h
  exact Rat.add_le_add_right.1 (Rat.neg_le_neg_iff.1 (Rat.le_trans (neg_le_absR _) h))

/-! ## tidy_inverse uncertainty propagation -/

theorem stepElem_other (rows : List RowId) (u : Nat → List Rat) (en : BalEntry) (i : Nat)
    (h : en.target ≠ .element (rows.getD i default).primary) : stepElem rows u en i = u i := by
  unfold stepElem
  cases ht : en.target with
  | row m => rfl
  | element q => exact if_neg fun hc => h (ht.trans (congrArg _ hc.1.symm))

theorem stepRow_other (rows : List RowId) (u : Nat → List Rat) (en : BalEntry) (i : Nat)
    (h : ∀ m, en.target = .row m → i ≠ rows.findIdx (fun r => r.master = m)) : stepRow rows u en i = u i := by
  unfold stepRow
  cases ht : en.target with
  | element q => rfl
  | row m => exact if_neg fun hc => h m ht hc.1

theorem foldl_stepElem_other (rows : List RowId) (es : List BalEntry) (u : Nat → List Rat) (i : Nat)
    (hes : ∀ en ∈ es, en.target ≠ .element (rows.getD i default).primary) :
    es.foldl (stepElem rows) u i = u i :=
  List.foldlRecOn es (stepElem rows) (motive := fun u' => u' i = u i) rfl
    fun u' hu en hen => (stepElem_other rows u' en i (hes en hen)).trans hu

theorem foldl_stepRow_other (rows : List RowId) (es : List BalEntry) (u : Nat → List Rat) (i : Nat)
    (hes : ∀ en ∈ es, ∀ m, en.target = .row m → i ≠ rows.findIdx (fun r => r.master = m)) :
    es.foldl (stepRow rows) u i = u i :=
  List.foldlRecOn es (stepRow rows) (motive := fun u' => u' i = u i) rfl
    fun u' hu en hen => (stepRow_other rows u' en i (hes en hen)).trans hu

/-! ## the subset search under `-minimal` -/

/-- hypotheses on the LP oracle under which the search is exact -/
structure OracleOK (o : Oracle) (nbits : Nat) : Prop where
  nz_sub  : ∀ s, (o s).1 = true → subsetOf (o s).2 s = true          -- non-zeros lie inside the mask
  nz_lt   : ∀ s, (o s).1 = true → (o s).2 < 2 ^ nbits                 -- only existing columns
  nz_fin  : ∀ s, (o s).1 = true → (o s).2.testBit (nbits - 1) = true  -- the final solution is always in
  nz_feas : ∀ s, (o s).1 = true → (o (o s).2).1 = true                -- the support of a solution is feasible
  mono    : ∀ s t, (o s).1 = true → subsetOf s t = true → (o t).1 = true  -- feasibility is monotone

/-- no reported model's set is contained in another one's (in particular not strictly) -/
def Antichain (l : List Nat) : Prop := l.Pairwise (fun a b => subsetOf a b = false ∧ subsetOf b a = false)

/-! ### bit sets -/

/-- bit-set inclusion as a proposition -/
def Sub (a b : Nat) : Prop := ∀ i, a.testBit i = true → b.testBit i = true

theorem subsetOf_iff (a b : Nat) : subsetOf a b = true ↔ Sub a b := by
  simp only [subsetOf, Sub, beq_iff_eq, Nat.eq_iff_testBit_eq, Nat.testBit_or, Bool.or_eq_right_iff_imp]

theorem subsetOf_false_iff (a b : Nat) : subsetOf a b = false ↔ ¬ Sub a b := by
  rw [← subsetOf_iff, Bool.not_eq_true]

theorem Sub.refl (a : Nat) : Sub a a := fun _ h => h
theorem Sub.trans {a b c : Nat} (h1 : Sub a b) (h2 : Sub b c) : Sub a c := fun i h => h2 i (h1 i h)
theorem Sub.antisymm {a b : Nat} (h1 : Sub a b) (h2 : Sub b a) : a = b :=
  Nat.eq_of_testBit_eq fun i => Bool.eq_iff_iff.2 ⟨h1 i, h2 i⟩

theorem and_eq_of_sub {a b : Nat} (h : Sub b a) : a &&& b = b := by
  simpa only [Nat.eq_iff_testBit_eq, Nat.testBit_and, Bool.and_eq_right_iff_imp, Sub] using h

/-- `T ^^^ (1 <<< k)` is how the code removes member `k` from a set that has it -/
theorem testBit_clear (T k i : Nat) : (T ^^^ (1 <<< k)).testBit i = (T.testBit i ^^ decide (k = i)) := by
  rw [Nat.testBit_xor, Nat.one_shiftLeft, Nat.testBit_two_pow]

theorem clear_sub (T k : Nat) (hk : T.testBit k = true) : Sub (T ^^^ (1 <<< k)) T := by
  intro i hi
  rw [testBit_clear] at hi
  by_cases hki : k = i
  · subst hki; exact hk
  · simpa [hki] using hi

theorem clear_testBit (T k : Nat) (hk : T.testBit k = true) : (T ^^^ (1 <<< k)).testBit k = false := by
  rw [testBit_clear]; simp [hk]

theorem sub_clear {s T k : Nat} (hs : Sub s T) (hsk : s.testBit k = false) : Sub s (T ^^^ (1 <<< k)) := by
  intro i hi
  rw [testBit_clear]
  have hki : ¬ k = i := by
    intro hki; subst hki; rw [hi] at hsk; cases hsk
  simp [hki, hs i hi]

theorem exists_bit_of_sub_ne {s T : Nat} (hs : Sub s T) (hne : s ≠ T) :
    ∃ i, T.testBit i = true ∧ s.testBit i = false := by
  apply Classical.byContradiction
  intro hno
  apply hne
  apply Sub.antisymm hs
  intro i hi
  cases hsi : s.testBit i
  · exact absurd ⟨i, hi, hsi⟩ hno
  · rfl

/-! ### consequences of `OracleOK` -/

section
variable {o : Oracle} {n : Nat} (h : OracleOK o n)
include h

theorem OracleOK.nonzeros_sub {s : Nat} (hs : (o s).1 = true) : Sub (o s).2 s :=
  (subsetOf_iff _ _).1 (h.nz_sub s hs)

theorem OracleOK.infeas_of_sub {s t : Nat} (hst : Sub s t) (ht : (o t).1 = false) : (o s).1 = false :=
  Bool.eq_false_iff.2 fun hs => Bool.false_ne_true (ht.symm.trans (h.mono s t hs ((subsetOf_iff _ _).2 hst)))

theorem OracleOK.infeas_of_noFin {s : Nat} (hs : s.testBit (n - 1) = false) : (o s).1 = false :=
  Bool.eq_false_iff.2 fun hf => Bool.false_ne_true (hs.symm.trans (h.nonzeros_sub hf _ (h.nz_fin s hf)))

end

/-! ### minimal feasible sets -/

/-- `m` is feasible and no proper subset of it is: what `minimal_solve` returns and `-minimal` reports -/
def IsMin (o : Oracle) (m : Nat) : Prop := (o m).1 = true ∧ ∀ s, Sub s m → s ≠ m → (o s).1 = false

/-- two different minimal sets are incomparable: this is why the reported models form an antichain -/
theorem IsMin.not_sub {o : Oracle} {a b : Nat} (ha : IsMin o a) (hb : IsMin o b) (hne : a ≠ b) : ¬ Sub a b :=
  fun hs => Bool.false_ne_true ((hb.2 a hs hne).symm.trans ha.1)

/-! ### the invariant -/

/-- invariant of the search state in minimal mode (the flag fields `calls first quit stop` do not matter);
    `min` is `IsMin o m` written out (`Inv.isMin`) -/
structure Inv (o : Oracle) (st : SState) : Prop where
  bad : ∀ b ∈ st.bad, (o b).1 = false
  min : ∀ m ∈ st.minimal, (o m).1 = true ∧ ∀ s, Sub s m → s ≠ m → (o s).1 = false
  rep : st.reported = st.minimal
  good : st.good = st.minimal
  anti : Antichain st.minimal

theorem Inv.isMin {o : Oracle} {st : SState} (hi : Inv o st) {m : Nat} (hm : m ∈ st.minimal) : IsMin o m :=
  hi.min m hm

theorem Inv.antichain {o : Oracle} {st : SState} (hi : Inv o st) : Antichain st.reported := by
  rw [hi.rep]; exact hi.anti

theorem Inv.init (o : Oracle) (st0 : SState)
    (h0 : st0.good = [] ∧ st0.bad = [] ∧ st0.minimal = [] ∧ st0.reported = []) : Inv o st0 := by
  obtain ⟨h1, h2, h3, h4⟩ := h0
  constructor
  · rw [h2]; intro b hb; cases hb
  · rw [h3]; intro m hm; cases hm
  · rw [h4, h3]
  · rw [h1, h3]
  · rw [h3]; exact List.Pairwise.nil

/-- the invariant looks at the four lists only -/
theorem Inv.flags {o : Oracle} {st st' : SState} (hi : Inv o st) (h1 : st'.bad = st.bad)
    (h2 : st'.minimal = st.minimal) (h3 : st'.reported = st.reported) (h4 : st'.good = st.good) : Inv o st' := by
  constructor
  · rw [h1]; exact hi.bad
  · rw [h2]; exact hi.min
  · rw [h3, h2]; exact hi.rep
  · rw [h4, h2]; exact hi.good
  · rw [h2]; exact hi.anti

/-- a new minimal set joins the three lists -/
theorem Inv.push {o : Oracle} {st st' : SState} {mb : Nat} (hi : Inv o st)
    (hbad : ∀ b ∈ st'.bad, (o b).1 = false)
    (hmin : st'.minimal = st.minimal ++ [mb]) (hrep : st'.reported = st.reported ++ [mb])
    (hgood : st'.good = st.good ++ [mb]) (hmb : IsMin o mb) (hnew : mb ∉ st.minimal) : Inv o st' := by
  refine ⟨hbad, ?_, by rw [hrep, hmin, hi.rep], by rw [hgood, hmin, hi.good], ?_⟩
  · rw [hmin]
    exact List.forall_mem_append.2 ⟨hi.min, List.forall_mem_singleton.2 hmb⟩
  · rw [hmin]
    refine List.pairwise_append.2 ⟨hi.anti, List.pairwise_singleton _ _, fun a ha b hb => ?_⟩
    rw [List.mem_singleton.1 hb]
    have hne : a ≠ mb := fun h => hnew (h ▸ ha)
    exact ⟨(subsetOf_false_iff _ _).2 ((hi.isMin ha).not_sub hmb hne),
      (subsetOf_false_iff _ _).2 (hmb.not_sub (hi.isMin ha) hne.symm)⟩

/-! ### `minimal_solve` -/

/-- invariant of the loop of `minimal_solve` after bits `< k` have been tried;
    `G` is the starting set, `st0` the state before -/
structure MInv (o : Oracle) (G : Nat) (st0 : SState) (k : Nat) (sb : SState × Nat) : Prop where
  bad : ∀ b ∈ sb.1.bad, (o b).1 = false
  min : sb.1.minimal = st0.minimal
  rep : sb.1.reported = st0.reported
  good : sb.1.good = st0.good
  feas : (o sb.2).1 = true
  sub : Sub sb.2 G
  -- a member below `k` that is still in the set is needed: nothing inside the set without it is feasible
  needed : ∀ i, i < k → sb.2.testBit i = true → ∀ s, Sub s sb.2 → s.testBit i = false → (o s).1 = false

theorem minimalStep_inv {o : Oracle} {n : Nat} (h : OracleOK o n) {G : Nat} {st0 : SState} {k : Nat}
    {sb : SState × Nat} (hi : MInv o G st0 k sb) : MInv o G st0 (k + 1) (minimalStep o sb k) := by
  obtain ⟨st, T⟩ := sb
  obtain ⟨hbad, hmin, hrep, hgood, hfeas, hsub, hq⟩ := hi
  simp only at hbad hmin hrep hgood hfeas hsub hq
  -- while the set stays `T`, `needed` extends to bit `k` as soon as `T` without `k` is known to be infeasible
  have hqext : (T.testBit k = true → (o (T ^^^ (1 <<< k))).1 = false) →
      ∀ i, i < k + 1 → T.testBit i = true → ∀ s, Sub s T → s.testBit i = false → (o s).1 = false := by
    intro ht i hik hTi s hsT hsi
    by_cases hik' : i < k
    · exact hq i hik' hTi s hsT hsi
    · have : i = k := by omega
      subst this
      exact h.infeas_of_sub (sub_clear hsT hsi) (ht hTi)
  unfold minimalStep
  simp only
  by_cases hk : T.testBit k = true
  · simp only [hk, Bool.not_true, Bool.false_eq_true, if_false]
    by_cases hsb : subsetBad st (T ^^^ (1 <<< k)) = true
    · simp only [hsb, if_true]
      obtain ⟨b, hb, hsub'⟩ := List.any_eq_true.1 hsb
      exact ⟨hbad, hmin, hrep, hgood, hfeas, hsub,
        hqext fun _ => h.infeas_of_sub ((subsetOf_iff _ _).1 hsub') (hbad b hb)⟩
    · simp only [hsb, Bool.false_eq_true, if_false]
      cases ht : (o (T ^^^ (1 <<< k))).1
      · simp only [Bool.false_eq_true, if_false]
        exact ⟨List.forall_mem_append.2 ⟨hbad, List.forall_mem_singleton.2 ht⟩, hmin, hrep, hgood, hfeas, hsub,
          hqext fun _ => ht⟩
      · simp only [if_true]
        refine ⟨hbad, hmin, hrep, hgood, ht, (clear_sub T k hk).trans hsub, ?_⟩
        intro i hik hti s hst hsi
        simp only at hti hst
        by_cases hik' : i < k
        · exact hq i hik' (clear_sub T k hk i hti) s (hst.trans (clear_sub T k hk)) hsi
        · have : i = k := by omega
          subst this
          rw [clear_testBit T i hk] at hti; cases hti
  · have hk' : T.testBit k = false := by simpa using hk
    simp only [hk', Bool.not_false, if_true]
    exact ⟨hbad, hmin, hrep, hgood, hfeas, hsub, hqext fun hk'' => absurd hk'' hk⟩

theorem minimalFold_inv {o : Oracle} {n : Nat} (h : OracleOK o n) {G : Nat} {st : SState}
    (hbad : ∀ b ∈ st.bad, (o b).1 = false) (hG : (o G).1 = true) (k : Nat) :
    MInv o G st k ((List.range k).foldl (minimalStep o) (st, G)) := by
  induction k with
  | zero => exact ⟨hbad, rfl, rfl, rfl, hG, Sub.refl G, fun i hi => absurd hi (Nat.not_lt_zero i)⟩
  | succ k ih =>
    rw [List.range_succ, List.foldl_append]
    simpa using minimalStep_inv h ih

/-- `minimal_solve` leaves the three lists alone and returns a minimal feasible subset of a feasible `G` -/
theorem minimalSolve_spec {o : Oracle} {c : SearchCfg} (h : OracleOK o c.nbits)
    {st : SState} {G : Nat} (hbad : ∀ b ∈ st.bad, (o b).1 = false) (hG : (o G).1 = true)
    (hlt : G < 2 ^ c.nbits) :
    (∀ b ∈ (minimalSolve o c st G).1.bad, (o b).1 = false) ∧
    (minimalSolve o c st G).1.minimal = st.minimal ∧
    (minimalSolve o c st G).1.reported = st.reported ∧
    (minimalSolve o c st G).1.good = st.good ∧
    IsMin o (minimalSolve o c st G).2 ∧ Sub (minimalSolve o c st G).2 G := by
  have hf := minimalFold_inv h hbad hG (c.nbits - 1)
  unfold minimalSolve rng
  generalize (List.range (c.nbits - 1)).foldl (minimalStep o) (st, G) = r at hf
  obtain ⟨st2, T⟩ := r
  obtain ⟨fbad, fmin, frep, fgood, ffeas, fsub, fq⟩ := hf
  simp only at fbad fmin frep fgood ffeas fsub fq
  simp only
  -- a bit that tells a proper subset from `T` was tried by the loop, or is the final solution, or is no column at all
  have hstrict : ∀ s, Sub s T → s ≠ T → (o s).1 = false := by
    intro s hs hne
    obtain ⟨i, hTi, hsi⟩ := exists_bit_of_sub_ne hs hne
    by_cases h1 : i < c.nbits - 1
    · exact fq i h1 hTi s hs hsi
    · by_cases h2 : i = c.nbits - 1
      · subst h2; exact h.infeas_of_noFin hsi
      · have := fsub i hTi
        rw [Nat.testBit_lt_two_pow (Nat.lt_of_lt_of_le hlt (Nat.pow_le_pow_right (by omega) (by omega)))] at this
        cases this
  -- so the LP on `T` uses all of `T`
  have hmb : (o T).2 = T := by
    apply Classical.byContradiction
    intro hne
    have := hstrict _ (h.nonzeros_sub ffeas) hne
    rw [h.nz_feas T ffeas] at this; cases this
  rw [hmb]
  exact ⟨fbad, fmin, frep, fgood, ⟨ffeas, hstrict⟩, fsub⟩

/-! ### the loops of `solve_inverse` -/

theorem step_inv {o : Oracle} {c : SearchCfg} (h : OracleOK o c.nbits) (hmin : c.minimal = true)
    (st : SState) (cur : Nat) (hi : Inv o st) : Inv o (step o c st cur) := by
  -- the case analysis follows the `if`s of `step`; `by_cases` + `rw`, since `split` is slow on this term
  unfold step
  extract_lets st1 res st2 st3 st4 G st5
  by_cases h1 : (subsetBad st cur || subsetMinimal st cur) = true
  · rw [if_pos h1]; exact hi
  rw [if_neg h1]
  by_cases h2 : (c.minimal && supersetMinimal st1 cur) = true
  · rw [if_pos h2]; exact hi.flags rfl rfl rfl rfl
  rw [if_neg h2]
  cases hres : res.1
  · -- infeasible: `cur` joins the bad sets
    have hb : ∀ b ∈ st.bad ++ [cur], (o b).1 = false :=
      List.forall_mem_append.2 ⟨hi.bad, List.forall_mem_singleton.2 hres⟩
    simp only [Bool.not_false, if_true]
    split <;> exact ⟨hb, hi.min, hi.rep, hi.good, hi.anti⟩
  simp only [Bool.not_true, Bool.false_eq_true, if_false]
  -- feasible: nothing is reported before `minimal_solve` under `-minimal`, and the non-zeros lie inside `cur`
  have e5 : st5 = st4 := by
    simp only [st5, hmin, Bool.not_true, Bool.and_false, Bool.false_eq_true, if_false]
  have hG : G = (o cur).2 := and_eq_of_sub (h.nonzeros_sub hres)
  rw [e5, hG]
  by_cases h4 : supersetMinimal st4 (o cur).2 = true
  · rw [if_pos h4]; exact hi.flags rfl rfl rfl rfl
  rw [if_neg h4]
  have spec := minimalSolve_spec h (st := st4) (G := (o cur).2) hi.bad (h.nz_feas cur hres) (h.nz_lt cur hres)
  generalize minimalSolve o c st4 (o cur).2 = r at spec ⊢
  obtain ⟨st6, mb⟩ := r
  obtain ⟨sbad, smin, srep, sgood, smb, ssub⟩ := spec
  -- `mb ⊆ (o cur).2`, which contains no minimal set found so far
  have hnew : mb ∉ st.minimal := fun hm =>
    h4 (List.any_eq_true.2 ⟨mb, hm, (subsetOf_iff _ _).2 ssub⟩)
  have hnot : st6.good.contains mb = false := by
    rw [sgood, show st4.good = st.minimal from hi.good]
    simpa using hnew
  simp only [hnot, Bool.not_false, if_true]
  exact hi.push sbad (congrArg (· ++ [mb]) smin) (congrArg (· ++ [mb]) srep) (congrArg (· ++ [mb]) sgood) smb hnew

theorem sizeLoop_inv {o : Oracle} {c : SearchCfg} (h : OracleOK o c.nbits) (hmin : c.minimal = true)
    (solnBits : Nat) (st : SState) (size : Nat) (hi : Inv o st) : Inv o (sizeLoop o c solnBits st size) := by
  unfold sizeLoop
  refine iteInduction (motive := Inv o) (fun _ => hi) fun _ => ?_
  extract_lets st1 st2
  have hf : Inv o st2 := List.foldlRecOn _ _ (hi.flags rfl rfl rfl rfl) fun a ha pb _ =>
    iteInduction (motive := Inv o) (fun _ => ha) fun _ => step_inv h hmin a _ ha
  exact iteInduction (motive := Inv o) (fun _ => hf.flags rfl rfl rfl rfl) fun _ => hf

theorem solnLoop_inv {o : Oracle} {c : SearchCfg} (h : OracleOK o c.nbits) (hmin : c.minimal = true)
    (st : SState) (solnBits : Nat) (hi : Inv o st) : Inv o (solnLoop o c st solnBits) :=
  List.foldlRecOn _ _ (hi.flags rfl rfl rfl rfl) fun a ha size _ => sizeLoop_inv h hmin solnBits a size ha

/-- every reported set is a minimal feasible set and no set is reported twice -/
theorem search_inv {o : Oracle} {c : SearchCfg} (h : OracleOK o c.nbits) (hmin : c.minimal = true) :
    Inv o (search o c) :=
  List.foldlRecOn _ _ (Inv.init o _ ⟨rfl, rfl, rfl, rfl⟩) fun a ha sb _ => solnLoop_inv h hmin a sb ha

/-! ### non-vacuity: 2 phases (bits 0, 1), 2 solutions (bit 2 initial, bit 3 final);
    a mask is feasible iff it contains the final solution and at least one phase; the LP solution uses
    the final solution and the first available phase -/

def exOracle : Oracle := fun s =>
  (s.testBit 3 && (s.testBit 0 || s.testBit 1), if s.testBit 0 then 9 else 10)

def exCfg : SearchCfg := { nph := 2, nsol := 2, minimal := true, range := false, forced := 0 }

theorem exOracle_ok : OracleOK exOracle exCfg.nbits := by
  -- the answers 9 and 10 are `2 ^ a ||| 2 ^ 3` with `a` the phase used
  have two : ∀ {a s : Nat}, s.testBit a = true → s.testBit 3 = true → Sub (2 ^ a ||| 2 ^ 3) s := by
    intro a s ha h3 i hi
    rw [Nat.testBit_or, Nat.testBit_two_pow, Nat.testBit_two_pow, Bool.or_eq_true, decide_eq_true_eq,
      decide_eq_true_eq] at hi
    rcases hi with rfl | rfl
    · exact ha
    · exact h3
  constructor
  · intro s hs
    rw [subsetOf_iff]
    simp only [exOracle, Bool.and_eq_true, Bool.or_eq_true] at hs ⊢
    by_cases h0 : s.testBit 0 = true
    · rw [if_pos h0]; exact two (a := 0) h0 hs.1
    · rw [if_neg h0]; exact two (a := 1) (hs.2.resolve_left h0) hs.1
  · intro s _
    show (if s.testBit 0 = true then 9 else 10) < 2 ^ 4
    split <;> decide
  · intro s _
    show (if s.testBit 0 = true then 9 else 10).testBit 3 = true
    split <;> decide
  · intro s _
    show (exOracle (if s.testBit 0 = true then 9 else 10)).1 = true
    split <;> decide
  · intro s t hs hst
    rw [subsetOf_iff] at hst
    simp only [exOracle, Bool.and_eq_true, Bool.or_eq_true] at hs ⊢
    exact ⟨hst _ hs.1, hs.2.imp (hst _) (hst _)⟩

theorem search_exOracle : (search exOracle exCfg).reported = [9, 10] := by decide

/-- the hypotheses are satisfiable and the search then reports two (incomparable) models -/
example : OracleOK exOracle exCfg.nbits ∧ exCfg.minimal = true ∧ 0 < exCfg.nbits ∧
    (search exOracle exCfg).reported = [9, 10] :=
  ⟨exOracle_ok, rfl, by decide, search_exOracle⟩

end PhreeqcVerif.Inverse
