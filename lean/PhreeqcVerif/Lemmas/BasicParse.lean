import PhreeqcVerif.Model.BasicGrammar
/-! Lemmas for C17: the level-indexed parser of `Model/BasicExpr.lean` returns the denotation of every well-formed
derivation of the expression grammar (`Model/BasicGrammar.lean`). Core Lean only.

The parser runs on fuel, and no statement here is about a particular amount of it: every result has the form "for all
sufficiently large fuel" (`Ev`), and results are combined with `Ev.and` / `Ev.succ` without ever naming a bound. -/
namespace PhreeqcVerif.Basic
variable {α : Type}

def Ev (P : Nat → Prop) : Prop := ∃ N, ∀ n, n ≥ N → P n

theorem Ev.and {P Q : Nat → Prop} (hP : Ev P) (hQ : Ev Q) : Ev fun n => P n ∧ Q n :=
  let ⟨N, hN⟩ := hP
  let ⟨M, hM⟩ := hQ
  ⟨max N M, fun n hn =>
    ⟨hN n (Nat.le_trans (Nat.le_max_left N M) hn), hM n (Nat.le_trans (Nat.le_max_right N M) hn)⟩⟩

/-- one more unit of fuel pays for one more call -/
theorem Ev.succ {P Q : Nat → Prop} (hP : Ev P) (h : ∀ n, P n → Q (n + 1)) : Ev Q :=
  let ⟨N, hN⟩ := hP
  ⟨N + 1, fun n hn => match n, hn with
    | n + 1, hn => h n (hN n (Nat.le_of_succ_le_succ hn))⟩

theorem Ev.pred {P Q : Nat → Prop} (hP : Ev P) (h : ∀ n, P (n + 1) → Q n) : Ev Q :=
  let ⟨N, hN⟩ := hP
  ⟨N, fun n hn => h n (hN (n + 1) (Nat.le_succ_of_le hn))⟩

theorem Ev.of_succ {P : Nat → Prop} (h : ∀ n, P (n + 1)) : Ev P :=
  Ev.succ (P := fun _ => True) ⟨0, fun _ _ => trivial⟩ fun n _ => h n

theorem pLvl_six (n l : Nat) (ts : List (Tok α)) (h : 6 ≤ l) : pLvl (n+1) l ts = pFactor n ts := by
  rw [pLvl]; simp [h]

theorem pLvl_five_ok {n : Nat} {ts r : List (Tok α)} {a : Expr α}
    (h : pLvl n 6 ts = .ok (a, r)) (hu : headIs r .up = false) : pLvl (n+1) 5 ts = .ok (a, r) := by
  rw [pLvl]; simp [h, hu]

theorem pLvl_five_up {n : Nat} {ts r r' : List (Tok α)} {a b : Expr α}
    (h : pLvl n 6 ts = .ok (a, r)) (hu : headIs r .up = true) (hb : pLvl n 5 r.tail = .ok (b, r')) :
    pLvl (n+1) 5 ts = .ok (.bin .up a b, r') := by
  rw [pLvl]; simp [h, hu, hb]

theorem pLvl_low_ok {n l : Nat} {ts r : List (Tok α)} {a : Expr α} (hl : l ≤ 4)
    (h : pLvl n (l + 1) ts = .ok (a, r)) : pLvl (n+1) l ts = pLoop n l a r := by
  rw [pLvl]
  have h1 : ¬ (l ≥ 6) := by omega
  have h2 : ¬ (l = 5) := by omega
  simp [h1, h2, h]

theorem pLoop_none {n l : Nat} {acc : Expr α} {ts : List (Tok α)} (h : headOp (opAtLevel l) ts = none) :
    pLoop (n+1) l acc ts = .ok (acc, ts) := by
  rw [pLoop]; simp [h]

theorem pLoop_some {n l : Nat} {acc b : Expr α} {ts r : List (Tok α)} {op : BinOp}
    (h : headOp (opAtLevel l) ts = some op) (hb : pLvl n (l + 1) ts.tail = .ok (b, r)) :
    pLoop (n+1) l acc ts = pLoop n l (.bin op acc b) r := by
  rw [pLoop]; simp [h, hb]

theorem pExpr_succ (n : Nat) (ts : List (Tok α)) : pExpr (n+1) ts = pLvl n 0 ts := by
  rw [pExpr]

/-- the loop of level `l` accepts exactly the tokens `kOfBin` gives the operators of level `l` -/
theorem opAtLevel_eq_some {l : Nat} {k : K} {op : BinOp} (h : opAtLevel l k = some op) :
    k = kOfBin op ∧ binLevel op = l := by
  unfold opAtLevel at h
  split at h
  · unfold exprOp at h; split at h <;> cases h <;> exact ⟨rfl, rfl⟩
  · unfold andOp at h; split at h <;> cases h <;> exact ⟨rfl, rfl⟩
  · unfold relOp at h; split at h <;> cases h <;> exact ⟨rfl, rfl⟩
  · unfold sexprOp at h; split at h <;> cases h <;> exact ⟨rfl, rfl⟩
  · unfold termOp at h; split at h <;> cases h <;> exact ⟨rfl, rfl⟩
  · cases h

theorem opAtLevel_kOfBin {op : BinOp} {l : Nat} (h : binLevel op = l) (hl : l ≤ 4) :
    opAtLevel l (kOfBin op) = some op := by
  subst h
  cases op with
  | up => exact absurd hl (by decide)
  | _ => rfl

theorem tokOpLevel_kOfBin (op : BinOp) : tokOpLevel (.k (kOfBin op) : Tok α) = some (binLevel op) := by
  cases op <;> rfl

theorem unFnOfK_kOfUn (f : UnFn) : unFnOfK (kOfUn f) = some f := by cases f <;> rfl
theorem trimFnOfK_kOfTrim (f : TrimFn) : trimFnOfK (kOfTrim f) = some f := by cases f <;> rfl
theorem unFnOfK_kOfTrim (f : TrimFn) : unFnOfK (kOfTrim f) = none := by cases f <;> rfl

theorem Tok.eq_of_isK {t : Tok α} {k : K} (h : t.isK k = true) : t = .k k := by
  cases t with
  | k k' => exact congrArg Tok.k (eq_of_beq h)
  | _ => cases h

theorem FollowOk.mono {l m : Nat} {rest : List (Tok α)} (h : FollowOk l rest) (hm : l ≤ m) : FollowOk m rest := by
  cases rest with
  | nil => trivial
  | cons t r => exact ⟨h.1, fun j hj => Nat.lt_of_lt_of_le (h.2 j hj) hm⟩

theorem FollowOk.not_lp {l : Nat} {rest : List (Tok α)} (h : FollowOk l rest) : headIs rest .lp = false := by
  cases rest with
  | nil => rfl
  | cons t r => exact h.1

theorem FollowOk.headOp_none {l : Nat} {rest : List (Tok α)} (h : FollowOk l rest) :
    headOp (opAtLevel l) rest = none := by
  cases rest with
  | nil => rfl
  | cons t r =>
    cases t with
    | k k =>
      cases hk : opAtLevel l k with
      | none => exact hk
      | some op =>
        obtain ⟨rfl, rfl⟩ := opAtLevel_eq_some hk
        exact absurd (h.2 _ (tokOpLevel_kOfBin op)) (Nat.lt_irrefl _)
    | _ => rfl

theorem FollowOk.not_up {rest : List (Tok α)} (h : FollowOk 5 rest) : headIs rest .up = false := by
  cases rest with
  | nil => rfl
  | cons t r =>
    refine Bool.eq_false_iff.mpr fun hu => ?_
    cases Tok.eq_of_isK hu
    exact Nat.lt_irrefl 5 (h.2 5 rfl)

theorem followOk_op (op : BinOp) (l : Nat) (r : List (Tok α)) (h : binLevel op < l) :
    FollowOk l ((.k (kOfBin op) : Tok α) :: r) := by
  refine ⟨?_, ?_⟩
  · cases op <;> rfl
  · intro j hj
    rw [tokOpLevel_kOfBin] at hj
    cases hj
    exact h

theorem followOk_rp (l : Nat) (r : List (Tok α)) : FollowOk l ((.k .rp : Tok α) :: r) :=
  ⟨rfl, fun j hj => by simp [tokOpLevel] at hj⟩

theorem followOk_comma (l : Nat) (r : List (Tok α)) : FollowOk l ((.k .comma : Tok α) :: r) :=
  ⟨rfl, fun j hj => by simp [tokOpLevel] at hj⟩

theorem followOk_args (l : Nat) (a : DArgs α) (rest : List (Tok α)) : FollowOk l (a.flat ++ rest) := by
  cases a with
  | nil => simpa [DArgs.flat] using followOk_rp l rest
  | cons d tl => simpa [DArgs.flat] using followOk_comma l (d.flat ++ (tl.flat ++ rest))

theorem followOk_tail {L : Nat} {tl : DTail α} {rest : List (Tok α)} (hw : tl.WF L) (hf : FollowOk L rest) :
    FollowOk (L + 1) (tl.flat ++ rest) := by
  cases tl with
  | nil => simpa [DTail.flat] using hf.mono (Nat.le_succ L)
  | cons op d tl' =>
    simp only [DTail.flat, List.append_assoc, List.cons_append, List.nil_append]
    exact followOk_op op (L + 1) _ (Nat.lt_succ_of_le (Nat.le_of_eq hw.1))

theorem pLvl_lower {n l : Nat} {ts rest : List (Tok α)} {e : Expr α} (hl : l ≤ 5)
    (h : pLvl n (l + 1) ts = .ok (e, rest)) (hf : FollowOk l rest) : pLvl (n + 1) l ts = .ok (e, rest) := by
  by_cases h5 : l = 5
  · subst h5
    exact pLvl_five_ok h hf.not_up
  · rw [pLvl_low_ok (by omega) h]
    cases n with
    | zero => rw [pLvl] at h; cases h
    | succ m => exact pLoop_none hf.headOp_none

theorem Ev.lower {ts rest : List (Tok α)} {e : Expr α} {l m : Nat} (hlm : l ≤ m) (hm : m ≤ 6)
    (hf : FollowOk l rest) (h : Ev fun n => pLvl n m ts = .ok (e, rest)) : Ev fun n => pLvl n l ts = .ok (e, rest) := by
  induction hlm with
  | refl => exact h
  | step hlm ih =>
    exact ih (Nat.le_of_succ_le hm) (h.succ fun _ hn => pLvl_lower (Nat.le_of_succ_le_succ hm) hn (hf.mono hlm))

theorem Ev.of_factor {ts rest : List (Tok α)} {e : Expr α} (h : Ev fun n => pFactor n ts = .ok (e, rest))
    {l : Nat} (hl : l ≤ 6) (hf : FollowOk l rest) : Ev fun n => pLvl n l ts = .ok (e, rest) :=
  Ev.lower hl (Nat.le_refl 6) hf (h.succ fun n hn => (pLvl_six n 6 ts (Nat.le_refl 6)).trans hn)

theorem Ev.pFactor {ts rest : List (Tok α)} {e : Expr α} (h : Ev fun n => pLvl n 6 ts = .ok (e, rest)) :
    Ev fun n => pFactor n ts = .ok (e, rest) :=
  h.pred fun n hn => (pLvl_six n 6 ts (Nat.le_refl 6)).symm.trans hn

theorem Ev.pExpr {ts rest : List (Tok α)} {e : Expr α} (h : Ev fun n => pLvl n 0 ts = .ok (e, rest)) :
    Ev fun n => pExpr n ts = .ok (e, rest) :=
  h.succ fun n hn => (pExpr_succ n ts).trans hn

theorem requireK_cons (k : K) (r : List (Tok α)) : requireK k ((.k k : Tok α) :: r) = .ok r := by
  simp [requireK, Tok.isK]

theorem pFactor_num (n : Nat) (x : α) (r : List (Tok α)) : pFactor (n+1) (.num x :: r) = .ok (.num x, r) := rfl
theorem pFactor_str (n : Nat) (s : String) (r : List (Tok α)) : pFactor (n+1) (.str s :: r) = .ok (.str s, r) := rfl
theorem pFactor_eol (n : Nat) (r : List (Tok α)) : pFactor (n+1) (.k .eol_ :: r) = .ok (.eol, r) := rfl
theorem pFactor_eolNotab (n : Nat) (r : List (Tok α)) : pFactor (n+1) (.k .eol_notab_ :: r) = .ok (.eolNotab, r) := rfl
theorem pFactor_noNewline (n : Nat) (r : List (Tok α)) : pFactor (n+1) (.k .no_newline_ :: r) = .ok (.noNewline, r) :=
  rfl
theorem pFactor_get0 (n : Nat) (r : List (Tok α)) :
    pFactor (n+1) (.k .get :: .k .lp :: .k .rp :: r) = .ok (.get .nil, r) := rfl
theorem pFactor_getS0 (n : Nat) (r : List (Tok α)) :
    pFactor (n+1) (.k .get_ :: .k .lp :: .k .rp :: r) = .ok (.getS .nil, r) := rfl

section
/- Local simp lemmas rather than arguments of each `simp`: as arguments the equations of a definition are derived again
in every proof, which is slow for the long `match` of `pFactor`. -/
attribute [local simp] pFactor unFnOfK trimFnOfK

theorem pFactor_var (n : Nat) (v : String) (r : List (Tok α)) (h : headIs r .lp = false) :
    pFactor (n+1) (.var v :: r) = .ok (.var v .nil, r) := by
  simp [h]

theorem pFactor_paren {n : Nat} {r r1 : List (Tok α)} {e : Expr α}
    (h : pExpr n r = .ok (e, (.k .rp : Tok α) :: r1)) : pFactor (n+1) (.k .lp :: r) = .ok (e, r1) := by
  simp [h, requireK_cons]

theorem pFactor_un {n : Nat} {k : K} {f : UnFn} {r r' : List (Tok α)} {e : Expr α} (hk : unFnOfK k = some f)
    (h : pFactor n r = .ok (e, r')) : pFactor (n+1) (.k k :: r) = .ok (.un f e, r') := by
  simp only [pFactor, hk, h]

theorem pFactor_trim {n : Nat} {k : K} {f : TrimFn} {r r' : List (Tok α)} {e : Expr α} (hu : unFnOfK k = none)
    (hk : trimFnOfK k = some f) (h : pFactor n r = .ok (e, (.k .rp : Tok α) :: r')) :
    pFactor (n+1) (.k k :: .k .lp :: r) = .ok (.trimf f e, r') := by
  simp only [pFactor, hu, hk, h, requireK_cons]

theorem pFactor_instr {n : Nat} {r r1 r2 : List (Tok α)} {a b : Expr α}
    (ha : pFactor n r = .ok (a, (.k .comma : Tok α) :: r1))
    (hb : pFactor n r1 = .ok (b, (.k .rp : Tok α) :: r2)) :
    pFactor (n+1) (.k .instr :: .k .lp :: r) = .ok (.instr a b, r2) := by
  simp [requireK_cons, ha, hb]

theorem pFactor_pad {n : Nat} {r r1 r2 : List (Tok α)} {a b : Expr α}
    (ha : pExpr n r = .ok (a, (.k .comma : Tok α) :: r1))
    (hb : pExpr n r1 = .ok (b, (.k .rp : Tok α) :: r2)) :
    pFactor (n+1) (.k .pad :: .k .lp :: r) = .ok (.pad a b, r2) := by
  simp [requireK_cons, ha, hb]

theorem pFactor_mid2 {n : Nat} {r r1 r2 : List (Tok α)} {a b : Expr α}
    (ha : pExpr n r = .ok (a, (.k .comma : Tok α) :: r1))
    (hb : pExpr n r1 = .ok (b, (.k .rp : Tok α) :: r2)) :
    pFactor (n+1) (.k .mid_ :: .k .lp :: r) = .ok (.mid2 a b, r2) := by
  simp [requireK_cons, ha, hb, headIs, Tok.isK]

theorem pFactor_mid3 {n : Nat} {r r1 r2 r3 : List (Tok α)} {a b c : Expr α}
    (ha : pExpr n r = .ok (a, (.k .comma : Tok α) :: r1))
    (hb : pExpr n r1 = .ok (b, (.k .comma : Tok α) :: r2))
    (hc : pExpr n r2 = .ok (c, (.k .rp : Tok α) :: r3)) :
    pFactor (n+1) (.k .mid_ :: .k .lp :: r) = .ok (.mid3 a b c, r3) := by
  simp [requireK_cons, ha, hb, hc, headIs, Tok.isK]

theorem pFactor_fmt {n : Nat} {r r1 r2 r3 : List (Tok α)} {a b c : Expr α} (isE : Bool)
    (ha : pExpr n r = .ok (a, (.k .comma : Tok α) :: r1))
    (hb : pExpr n r1 = .ok (b, (.k .comma : Tok α) :: r2))
    (hc : pExpr n r2 = .ok (c, (.k .rp : Tok α) :: r3)) :
    pFactor (n+1) (.k (if isE then .str_e_ else .str_f_) :: .k .lp :: r) = .ok (.fmt isE a b c, r3) := by
  cases isE <;> simp [requireK_cons, ha, hb, hc]

theorem pFactor_varSub {n : Nat} {r r1 r2 : List (Tok α)} {e : Expr α} {rest : Args α} (v : String)
    (h1 : pExpr n r = .ok (e, r1)) (h2 : pArgsTail n r1 = .ok (rest, r2)) :
    pFactor (n+1) (.var v :: .k .lp :: r) = .ok (.var v (.cons e rest), r2) := by
  simp [headIs, Tok.isK, h1, h2]

theorem pFactor_get {n : Nat} {r r1 r2 : List (Tok α)} {e : Expr α} {rest : Args α}
    (hrp : headIs r .rp = false) (h1 : pExpr n r = .ok (e, r1)) (h2 : pArgsTail n r1 = .ok (rest, r2)) :
    pFactor (n+1) (.k .get :: .k .lp :: r) = .ok (.get (.cons e rest), r2) := by
  simp [requireK_cons, hrp, h1, h2]

theorem pFactor_getS {n : Nat} {r r1 r2 : List (Tok α)} {e : Expr α} {rest : Args α}
    (hrp : headIs r .rp = false) (h1 : pExpr n r = .ok (e, r1)) (h2 : pArgsTail n r1 = .ok (rest, r2)) :
    pFactor (n+1) (.k .get_ :: .k .lp :: r) = .ok (.getS (.cons e rest), r2) := by
  simp [requireK_cons, hrp, h1, h2]

end

theorem pArgsTail_rp (n : Nat) (r : List (Tok α)) : pArgsTail (n+1) ((.k .rp : Tok α) :: r) = .ok (.nil, r) := rfl

theorem pArgsTail_comma {n : Nat} {r r1 r2 : List (Tok α)} {e : Expr α} {rest : Args α}
    (h1 : pExpr n r = .ok (e, r1)) (h2 : pArgsTail n r1 = .ok (rest, r2)) :
    pArgsTail (n+1) ((.k .comma : Tok α) :: r) = .ok (.cons e rest, r2) := by
  rw [pArgsTail]; simp [headIs, Tok.isK, h1, h2]

/-- the token string of a derivation never starts with a right parenthesis: `GET ( expr …` is not mistaken for `GET ( )` -/
theorem flat_head_not_rp (d : Deriv α) (rest : List (Tok α)) : headIs (d.flat ++ rest) .rp = false := by
  cases d with
  | up a b =>
    rw [Deriv.flat, List.append_assoc, List.append_assoc]
    exact flat_head_not_rp a _
  | chain _ f r =>
    rw [Deriv.flat, List.append_assoc]
    exact flat_head_not_rp f _
  | fmt isE _ _ _ => cases isE <;> rfl
  | un f _ => cases f <;> rfl
  | trimf f _ => cases f <;> rfl
  | _ => rfl

theorem Deriv.level_le_six {d : Deriv α} (hw : d.WF) : d.level ≤ 6 := by
  cases d with
  | chain l f r => exact Nat.le_trans hw.1 (by decide)
  | up a b => exact Nat.le_succ 5
  | _ => exact Nat.le_refl 6

mutual
theorem roundtrip_deriv (d : Deriv α) (hw : d.WF) (rest : List (Tok α)) (l : Nat) (hl : l ≤ d.level)
    (hf : FollowOk l rest) : Ev fun n => pLvl n l (d.flat ++ rest) = .ok (d.den, rest) := by
  have hl6 : l ≤ 6 := Nat.le_trans hl (Deriv.level_le_six hw)
  match d, hw, hl with
  | .num x, _, _ => exact Ev.of_factor (.of_succ fun n => pFactor_num n x rest) hl6 hf
  | .str s, _, _ => exact Ev.of_factor (.of_succ fun n => pFactor_str n s rest) hl6 hf
  | .var v, _, _ => exact Ev.of_factor (.of_succ fun n => pFactor_var n v rest hf.not_lp) hl6 hf
  | .eol, _, _ => exact Ev.of_factor (.of_succ fun n => pFactor_eol n rest) hl6 hf
  | .eolNotab, _, _ => exact Ev.of_factor (.of_succ fun n => pFactor_eolNotab n rest) hl6 hf
  | .noNewline, _, _ => exact Ev.of_factor (.of_succ fun n => pFactor_noNewline n rest) hl6 hf
  | .get0, _, _ => exact Ev.of_factor (.of_succ fun n => pFactor_get0 n rest) hl6 hf
  | .getS0, _, _ => exact Ev.of_factor (.of_succ fun n => pFactor_getS0 n rest) hl6 hf
  | .paren d1, hw, _ =>
    have h1 := (roundtrip_deriv d1 hw ((.k .rp : Tok α) :: rest) 0 (Nat.zero_le _) (followOk_rp 0 rest)).pExpr
    refine Ev.of_factor (h1.succ fun n h => ?_) hl6 hf
    simpa [Deriv.flat, Deriv.den] using pFactor_paren h
  | .un f d1, hw, _ =>
    have h1 := (roundtrip_deriv d1 hw.2 rest 6 (Nat.le_of_eq hw.1.symm) (hf.mono hl6)).pFactor
    refine Ev.of_factor (h1.succ fun n h => ?_) hl6 hf
    simpa [Deriv.flat, Deriv.den] using pFactor_un (unFnOfK_kOfUn f) h
  | .trimf f d1, hw, _ =>
    have h1 := (roundtrip_deriv d1 hw.2 ((.k .rp : Tok α) :: rest) 6 (Nat.le_of_eq hw.1.symm)
      (followOk_rp 6 rest)).pFactor
    refine Ev.of_factor (h1.succ fun n h => ?_) hl6 hf
    simpa [Deriv.flat, Deriv.den] using pFactor_trim (unFnOfK_kOfTrim f) (trimFnOfK_kOfTrim f) h
  | .instr a b, hw, _ =>
    have hb := (roundtrip_deriv b hw.2.2.2 ((.k .rp : Tok α) :: rest) 6 (Nat.le_of_eq hw.2.2.1.symm)
      (followOk_rp 6 rest)).pFactor
    have ha := (roundtrip_deriv a hw.2.1 ((.k .comma : Tok α) :: (b.flat ++ (.k .rp : Tok α) :: rest)) 6
      (Nat.le_of_eq hw.1.symm) (followOk_comma 6 _)).pFactor
    refine Ev.of_factor ((ha.and hb).succ fun n h => ?_) hl6 hf
    simpa [Deriv.flat, Deriv.den] using pFactor_instr h.1 h.2
  | .pad a b, hw, _ =>
    have hb := (roundtrip_deriv b hw.2 ((.k .rp : Tok α) :: rest) 0 (Nat.zero_le _) (followOk_rp 0 rest)).pExpr
    have ha := (roundtrip_deriv a hw.1 ((.k .comma : Tok α) :: (b.flat ++ (.k .rp : Tok α) :: rest)) 0
      (Nat.zero_le _) (followOk_comma 0 _)).pExpr
    refine Ev.of_factor ((ha.and hb).succ fun n h => ?_) hl6 hf
    simpa [Deriv.flat, Deriv.den] using pFactor_pad h.1 h.2
  | .mid2 a b, hw, _ =>
    have hb := (roundtrip_deriv b hw.2 ((.k .rp : Tok α) :: rest) 0 (Nat.zero_le _) (followOk_rp 0 rest)).pExpr
    have ha := (roundtrip_deriv a hw.1 ((.k .comma : Tok α) :: (b.flat ++ (.k .rp : Tok α) :: rest)) 0
      (Nat.zero_le _) (followOk_comma 0 _)).pExpr
    refine Ev.of_factor ((ha.and hb).succ fun n h => ?_) hl6 hf
    simpa [Deriv.flat, Deriv.den] using pFactor_mid2 h.1 h.2
  | .mid3 a b c, hw, _ =>
    have hc := (roundtrip_deriv c hw.2.2 ((.k .rp : Tok α) :: rest) 0 (Nat.zero_le _) (followOk_rp 0 rest)).pExpr
    have hb := (roundtrip_deriv b hw.2.1 ((.k .comma : Tok α) :: (c.flat ++ (.k .rp : Tok α) :: rest)) 0
      (Nat.zero_le _) (followOk_comma 0 _)).pExpr
    have ha := (roundtrip_deriv a hw.1
      ((.k .comma : Tok α) :: (b.flat ++ (.k .comma : Tok α) :: (c.flat ++ (.k .rp : Tok α) :: rest))) 0
      (Nat.zero_le _) (followOk_comma 0 _)).pExpr
    refine Ev.of_factor ((ha.and (hb.and hc)).succ fun n h => ?_) hl6 hf
    simpa [Deriv.flat, Deriv.den] using pFactor_mid3 h.1 h.2.1 h.2.2
  | .fmt isE a b c, hw, _ =>
    have hc := (roundtrip_deriv c hw.2.2 ((.k .rp : Tok α) :: rest) 0 (Nat.zero_le _) (followOk_rp 0 rest)).pExpr
    have hb := (roundtrip_deriv b hw.2.1 ((.k .comma : Tok α) :: (c.flat ++ (.k .rp : Tok α) :: rest)) 0
      (Nat.zero_le _) (followOk_comma 0 _)).pExpr
    have ha := (roundtrip_deriv a hw.1
      ((.k .comma : Tok α) :: (b.flat ++ (.k .comma : Tok α) :: (c.flat ++ (.k .rp : Tok α) :: rest))) 0
      (Nat.zero_le _) (followOk_comma 0 _)).pExpr
    refine Ev.of_factor ((ha.and (hb.and hc)).succ fun n h => ?_) hl6 hf
    simpa [Deriv.flat, Deriv.den] using pFactor_fmt isE h.1 h.2.1 h.2.2
  | .varSub v f m, hw, _ =>
    have hm := roundtrip_args m hw.2 rest
    have hff := (roundtrip_deriv f hw.1 (m.flat ++ rest) 0 (Nat.zero_le _) (followOk_args 0 m rest)).pExpr
    refine Ev.of_factor ((hff.and hm).succ fun n h => ?_) hl6 hf
    simpa [Deriv.flat, Deriv.den] using pFactor_varSub v h.1 h.2
  | .get f m, hw, _ =>
    have hm := roundtrip_args m hw.2 rest
    have hff := (roundtrip_deriv f hw.1 (m.flat ++ rest) 0 (Nat.zero_le _) (followOk_args 0 m rest)).pExpr
    refine Ev.of_factor ((hff.and hm).succ fun n h => ?_) hl6 hf
    simpa [Deriv.flat, Deriv.den] using pFactor_get (flat_head_not_rp f (m.flat ++ rest)) h.1 h.2
  | .getS f m, hw, _ =>
    have hm := roundtrip_args m hw.2 rest
    have hff := (roundtrip_deriv f hw.1 (m.flat ++ rest) 0 (Nat.zero_le _) (followOk_args 0 m rest)).pExpr
    refine Ev.of_factor ((hff.and hm).succ fun n h => ?_) hl6 hf
    simpa [Deriv.flat, Deriv.den] using pFactor_getS (flat_head_not_rp f (m.flat ++ rest)) h.1 h.2
  | .up a b, hw, hl =>
    have hl5 : l ≤ 5 := hl
    have hb := roundtrip_deriv b hw.2.2.2 rest 5 hw.2.2.1 (hf.mono hl5)
    have ha := roundtrip_deriv a hw.2.1 ((.k .up : Tok α) :: (b.flat ++ rest)) 6 (Nat.le_of_eq hw.1.symm)
      (followOk_op .up 6 _ (by decide))
    refine Ev.lower hl5 (Nat.le_succ 5) hf ((ha.and hb).succ fun n h => ?_)
    simpa [Deriv.flat, Deriv.den] using
      pLvl_five_up (ts := a.flat ++ (.k .up : Tok α) :: (b.flat ++ rest)) h.1 rfl h.2
  | .chain L f r, hw, hl =>
    have hlL : l ≤ L := hl
    have hL4 : L ≤ 4 := hw.1
    have hr := roundtrip_loop r L hw.2.2.2 hL4 rest (hf.mono hlL)
    have hfi := roundtrip_deriv f hw.2.2.1 (r.flat ++ rest) (L + 1) hw.2.1 (followOk_tail hw.2.2.2 (hf.mono hlL))
    refine Ev.lower hlL (Nat.le_trans hL4 (by decide)) hf ((hfi.and hr).succ fun n h => ?_)
    have : (Deriv.chain L f r).flat ++ rest = f.flat ++ (r.flat ++ rest) := by simp [Deriv.flat]
    rw [this, pLvl_low_ok hL4 h.1]
    exact h.2 f.den

theorem roundtrip_loop (t : DTail α) (L : Nat) (hw : t.WF L) (hL : L ≤ 4) (rest : List (Tok α))
    (hf : FollowOk L rest) :
    Ev fun n => ∀ acc : Expr α, pLoop n L acc (t.flat ++ rest) = .ok (t.fold acc, rest) := by
  match t, hw with
  | .nil, _ => exact .of_succ fun n acc => pLoop_none hf.headOp_none
  | .cons op d tl, hw =>
    have ht := roundtrip_loop tl L hw.2.2.2 hL rest hf
    have hd := roundtrip_deriv d hw.2.2.1 (tl.flat ++ rest) (L + 1) hw.2.1 (followOk_tail hw.2.2.2 hf)
    refine (hd.and ht).succ fun n h acc => ?_
    have hop : headOp (opAtLevel L) ((.k (kOfBin op) : Tok α) :: (d.flat ++ (tl.flat ++ rest))) = some op :=
      opAtLevel_kOfBin hw.1 hL
    have e1 : (DTail.cons op d tl).flat ++ rest = (.k (kOfBin op) : Tok α) :: (d.flat ++ (tl.flat ++ rest)) := by
      simp [DTail.flat]
    rw [e1, pLoop_some hop h.1]
    exact h.2 (.bin op acc d.den)

theorem roundtrip_args (a : DArgs α) (hw : a.WF) (rest : List (Tok α)) :
    Ev fun n => pArgsTail n (a.flat ++ rest) = .ok (a.den, rest) := by
  match a, hw with
  | .nil, _ => exact .of_succ fun n => pArgsTail_rp n rest
  | .cons d tl, hw =>
    have ht := roundtrip_args tl hw.2 rest
    have hd := (roundtrip_deriv d hw.1 (tl.flat ++ rest) 0 (Nat.zero_le _) (followOk_args 0 tl rest)).pExpr
    refine (hd.and ht).succ fun n h => ?_
    simpa [DArgs.flat, DArgs.den] using pArgsTail_comma h.1 h.2
end

theorem roundtrip_tail (t : DTail α) (L : Nat) (hw : t.WF L) (hL : L ≤ 4) (rest : List (Tok α))
    (hf : FollowOk L rest) :
    ∃ N, ∀ (acc : Expr α) n, n ≥ N → pLoop n L acc (t.flat ++ rest) = .ok (t.fold acc, rest) :=
  let ⟨N, h⟩ := roundtrip_loop t L hw hL rest hf
  ⟨N, fun acc n hn => h n hn acc⟩

end PhreeqcVerif.Basic
