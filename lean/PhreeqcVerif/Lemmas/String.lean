/-! Bounds on string literals that avoid evaluating `String.length`, which decodes the UTF-8 bytes of its argument and is
slow in the kernel on literals of any size. -/
namespace String

/-- For a literal `s`, `exact le_length_ofList (by decide)` proves `n ≤ s.length`: the unifier reads a literal as
`String.ofList` of its characters, so `l` is found by unification and only `l.length` is evaluated. -/
theorem le_length_ofList {l : List Char} {n : Nat} (h : n ≤ l.length) : n ≤ (String.ofList l).length :=
  length_ofList ▸ h

end String
