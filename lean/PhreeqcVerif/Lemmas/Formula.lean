import PhreeqcVerif.Model.Formula
/-! Lemmas about the formula parser: the token readers on appended text, and the relation `Parses` (what `elts` makes
of a text, fuel left out) with one lemma per move of the parser. -/
namespace PhreeqcVerif.Formula

theorem isNumCh_not_low {c : Char} (h : isNumCh c = true) : isLow c = false := by
  simp only [isNumCh, isDig, isCh, Bool.or_eq_true, Bool.and_eq_true, decide_eq_true_eq, beq_iff_eq] at h
  simp only [isLow, Bool.or_eq_false_iff, Bool.and_eq_false_iff, decide_eq_false_iff_not, beq_eq_false_iff_ne]
  omega

-- an element token starts with a capital letter or `[` (code 91)
theorem eltHead_safe {c : Char} (h : isUp c = true ∨ isCh c 91 = true) : isLow c = false ∧ isNumCh c = false := by
  simp only [isUp, isCh, Bool.and_eq_true, decide_eq_true_eq, beq_iff_eq] at h
  simp only [isLow, isNumCh, isDig, isCh, Bool.or_eq_false_iff, Bool.and_eq_false_iff, decide_eq_false_iff_not,
    beq_eq_false_iff_ne]
  omega

theorem eltHead_notstop {c : Char} (h : isUp c = true ∨ isCh c 91 = true) :
    isCh c 43 = false ∧ isCh c 45 = false ∧ isCh c 41 = false := by
  simp only [isUp, isCh, Bool.and_eq_true, decide_eq_true_eq, beq_iff_eq] at h
  simp only [isCh, beq_eq_false_iff_ne]
  omega

theorem SafeStart.noLow {s : List Char} (h : SafeStart s) : NoLow s := by
  cases s with
  | nil => trivial
  | cons c t => exact h.1

/-! ### `get_num` -/

theorem spanNum_append {k : List Char} {dot : Bool} {rest : List Char} (h : (spanNum k dot).2 = []) (hs : SafeStart rest) :
    spanNum (k ++ rest) dot = (k, rest) := by
  induction k generalizing dot with
  | nil =>
    cases rest with
    | nil => rfl
    | cons c t =>
      have hc := hs.2
      rw [isNumCh, Bool.or_eq_false_iff] at hc
      simp only [List.nil_append, spanNum, hc.1, hc.2, Bool.false_and, Bool.false_eq_true, if_false]
  | cons c k ih =>
    rw [List.cons_append, spanNum]
    rw [spanNum] at h
    split at h
    · next hd => rw [if_pos hd, ih h]
    · next hd =>
      split at h
      · next hp => rw [if_neg hd, if_pos hp, ih h]
      · cases h

theorem validNum_head {c : Char} {t : List Char} (h : Seq.validNum (c :: t)) : isNumCh c = true := by
  rw [Seq.validNum, spanNum] at h
  rw [isNumCh, Bool.or_eq_true]
  split at h
  · next hd => exact Or.inl hd
  · split at h
    · next hp => exact Or.inr (Bool.and_eq_true_iff.mp hp).1
    · cases h

theorem getNum_append {k rest : List Char} (hk : Seq.validNum k) (hs : SafeStart rest) :
    getNum (k ++ rest) = (numOr1 k, rest) := by
  simp only [getNum, spanNum_append (congrArg Prod.snd hk) hs]

theorem noLow_num {k rest : List Char} (hk : Seq.validNum k) (hs : SafeStart rest) : NoLow (k ++ rest) := by
  cases k with
  | nil => simpa using hs.noLow
  | cons c t => exact isNumCh_not_low (validNum_head hk)

/-! ### `get_elt` -/

theorem spanLow_split (s : List Char) : (spanLow s).1 ++ (spanLow s).2 = s := by
  induction s with
  | nil => rfl
  | cons c t ih =>
    rw [spanLow]
    split
    · exact congrArg (c :: ·) ih
    · rfl

theorem spanLow_append {l rest : List Char} (h : (spanLow l).2 = []) (hs : NoLow rest) :
    spanLow (l ++ rest) = (l, rest) := by
  induction l with
  | nil =>
    cases rest with
    | nil => rfl
    | cons c t => rw [List.nil_append, spanLow, if_neg (Bool.eq_false_iff.mp hs)]
  | cons c l ih =>
    rw [List.cons_append, spanLow]
    rw [spanLow] at h
    split at h
    · next hl => rw [if_pos hl, ih h]
    · cases h

theorem bracket_spec (t : List Char) : ∀ {b r}, bracket t = some (b, r) →
    b ++ r = t ∧ ∀ rest, bracket (t ++ rest) = some (b, r ++ rest) := by
  fun_induction bracket t with
  | case1 | case3 | case5 => intro b r h; cases h   -- the three ways to `none`
  | case2 c t hc =>   -- `]` comes first: nothing is consumed
    intro b r h
    cases h
    exact ⟨rfl, fun rest => by rw [List.cons_append, bracket.eq_def]; simp only [if_pos hc]⟩
  | case4 c hc d t' hd =>   -- `]` is the second character
    intro b r h
    cases h
    exact ⟨rfl, fun rest => by rw [List.cons_append, List.cons_append, bracket, if_neg hc, if_pos hd]⟩
  | case6 c hc d t' hd a r' hb ih =>   -- `]` comes later
    intro b r h
    cases h
    obtain ⟨h1, h2⟩ := ih hb
    refine ⟨by rw [List.cons_append, h1], fun rest => ?_⟩
    have := h2 rest
    rw [List.cons_append] at this
    rw [List.cons_append, List.cons_append, bracket, if_neg hc, if_neg hd, this]

theorem getElt_append {n rest : List Char} (hn : getElt n = some (n, [])) (hs : NoLow rest) :
    getElt (n ++ rest) = some (n, rest) := by
  cases n with
  | nil => cases hn
  | cons c t =>
    rw [getElt] at hn
    rw [List.cons_append, getElt]
    split at hn
    · next hc =>
      rw [if_pos hc]
      cases hb : bracket t with
      | none => simp [hb] at hn
      | some p =>
        obtain ⟨b, r⟩ := p
        simp only [hb, Option.some.injEq, Prod.mk.injEq] at hn
        simp only [(bracket_spec t hb).2 rest, spanLow_append hn.2 hs, (bracket_spec t hb).1]
    · next hc =>
      simp only [Option.some.injEq, Prod.mk.injEq] at hn
      rw [if_neg hc, spanLow_append hn.2 hs]

/-! ### reading a printed body -/

theorem safe_print (q : Seq) (hq : q.WF) {rest : List Char} (hs : SafeStart rest) : SafeStart (q.print ++ rest) := by
  cases q with
  | nil => simpa [Seq.print] using hs
  | elt n k r =>
    obtain ⟨⟨⟨c, t, hn, hc⟩, _⟩, _, _⟩ := hq
    subst hn
    exact eltHead_safe hc
  | paren b k r =>
    show SafeStart ('(' :: _)
    exact ⟨by decide, by decide⟩

abbrev Res := Option (List (Elt × Rat) × List Char × Nat)

def prep (l : List (Elt × Rat)) : Res → Res
  | none => none
  | some (l', r, pc) => some (l ++ l', r, pc)

@[simp] theorem prep_some (l l' : List (Elt × Rat)) (r : List Char) (pc : Nat) :
    prep l (some (l', r, pc)) = some (l ++ l', r, pc) := rfl

@[simp] theorem prep_nil (R : Res) : prep [] R = R := by
  cases R with
  | none => rfl
  | some p => rfl

theorem prep_prep (a b : List (Elt × Rat)) (R : Res) : prep a (prep b R) = prep (a ++ b) R := by
  cases R with
  | none => rfl
  | some p => simp only [prep, List.append_assoc]

theorem elts_lparen (f : Nat) (coef : Rat) (t : List Char) (pc : Nat) :
    elts (f + 1) coef ('(' :: t) pc =
      match elts f coef t (pc + 1) with
      | none => none
      | some (l1, r1, pc1) => prep (scale (getNum r1).1 l1) (elts f coef (getNum r1).2 pc1) := rfl

theorem elts_colon (f : Nat) (coef : Rat) (t : List Char) (pc : Nat) :
    elts (f + 1) coef (':' :: t) pc =
      match elts f coef (getNum t).2 pc with
      | none => none
      | some (l1, r1, pc1) => prep (scale (getNum t).1 l1) (elts f coef r1 pc1) := rfl

theorem elts_elt {c : Char} (hc : isUp c = true ∨ isCh c 91 = true) (f : Nat) (coef : Rat) (t : List Char) (pc : Nat) :
    elts (f + 1) coef (c :: t) pc =
      match getElt (c :: t) with
      | none => none
      | some (name, r1) => prep [(String.ofList name, (getNum r1).1 * coef)] (elts f coef (getNum r1).2 pc) := by
  obtain ⟨p1, p2, p3⟩ := eltHead_notstop hc
  have hst : startsElt c t = true := by
    simp only [startsElt, Bool.or_eq_true]
    exact hc.elim (fun h => Or.inl (Or.inl h)) Or.inr
  simp only [elts, p1, p2, p3, hst, Bool.or_self, Bool.false_eq_true, if_false, if_true]
  rfl

theorem length_lt_of_append {a b : List Char} {f : Nat} (h : (a ++ b).length < f) : b.length < f :=
  Nat.lt_of_le_of_lt (List.suffix_append a b).length_le h

/-- `elts` reads `s` at parenthesis depth `pc` with result `R`, whatever fuel beyond the length of `s` it is given -/
def Parses (coef : Rat) (s : List Char) (pc : Nat) (R : Res) : Prop :=
  ∀ fuel, s.length < fuel → elts fuel coef s pc = R

namespace Parses
variable {coef : Rat} {pc : Nat} {R : Res}

theorem parseChars {s r : List Char} {l : List (Elt × Rat)} (h : Parses coef s 0 (some (l, r, pc))) :
    parseChars coef s = some l := by
  simp only [Formula.parseChars, h _ (Nat.lt_succ_self _)]

-- here and below there is no case for fuel 0: `s.length < 0` has no proof
theorem nil : Parses coef [] 0 (some ([], [], 0))
  | _ + 1, _ => rfl

/-- `+` or `-`: the charge is left unread -/
theorem charge {c : Char} {z : List Char} (hc : (isCh c 43 || isCh c 45) = true) :
    Parses coef (c :: z) 0 (some ([], c :: z, 0))
  | _ + 1, _ => if_pos hc

theorem rparen {t : List Char} : Parses coef (')' :: t) (pc + 1) (some ([], t, pc))
  | _ + 1, _ => rfl

theorem elt {n k rest : List Char} (hn : Seq.validElt n) (hk : Seq.validNum k) (hs : SafeStart rest)
    (h : Parses coef rest pc R) : Parses coef (n ++ (k ++ rest)) pc (prep [(String.ofList n, numOr1 k * coef)] R)
  | f + 1, hf => by
    obtain ⟨⟨c, t, rfl, hc⟩, hge⟩ := hn
    have hlen : rest.length < f := length_lt_of_append (length_lt_of_append (Nat.lt_of_succ_lt_succ hf))
    rw [List.cons_append, elts_elt hc, ← List.cons_append, getElt_append hge (noLow_num hk hs)]
    simp only [getNum_append hk hs, h f hlen]

/-- a group `( b ) k` whose inside reads as `l` -/
theorem paren {b k rest : List Char} {l : List (Elt × Rat)}
    (hb : Parses coef (b ++ ')' :: (k ++ rest)) (pc + 1) (some (l, k ++ rest, pc))) (hk : Seq.validNum k)
    (hs : SafeStart rest) (h : Parses coef rest pc R) :
    Parses coef ('(' :: (b ++ ')' :: (k ++ rest))) pc (prep (scale (numOr1 k) l) R)
  | f + 1, hf => by
    have hlen : rest.length < f :=
      length_lt_of_append (Nat.lt_of_succ_lt (length_lt_of_append (Nat.lt_of_succ_lt_succ hf)))
    simp only [elts_lparen, hb f (Nat.lt_of_succ_lt_succ hf), getNum_append hk hs, h f hlen]

/-- a hydrate tail `: k t`: `t` is read by a call of its own, and what that call leaves is read after it -/
theorem colon {k t r : List Char} {l : List (Elt × Rat)} {pc1 : Nat} (hk : Seq.validNum k) (hs : SafeStart t)
    (ht : Parses coef t pc (some (l, r, pc1))) (hr : r.length ≤ t.length) (h : Parses coef r pc1 R) :
    Parses coef (':' :: (k ++ t)) pc (prep (scale (numOr1 k) l) R)
  | f + 1, hf => by
    have hlen : t.length < f := length_lt_of_append (Nat.lt_of_succ_lt_succ hf)
    simp only [elts_colon, getNum_append hk hs, ht f hlen, h f (Nat.lt_of_le_of_lt hr hlen)]

/-- what reads the rest of the text, preceded by a well-formed body -/
theorem seq {rest : List Char} (h : Parses coef rest pc R) (q : Seq) (hq : q.WF) (hs : SafeStart rest) :
    Parses coef (q.print ++ rest) pc (prep (q.denote coef) R) := by
  induction q generalizing rest pc R with
  | nil => simpa only [Seq.print, Seq.denote, List.nil_append, prep_nil] using h
  | elt n k r ih =>
    have := elt hq.1 hq.2.1 (safe_print r hq.2.2 hs) (ih h hq.2.2 hs)
    simpa only [Seq.print, Seq.denote, List.append_assoc, prep_prep, List.singleton_append] using this
  | paren b k r ihb ihr =>
    have hin := ihb (rparen (pc := pc) (t := k ++ (r.print ++ rest))) hq.1 ⟨by decide, by decide⟩
    rw [prep_some, List.append_nil] at hin
    have := paren hin hq.2.1 (safe_print r hq.2.2 hs) (ihr h hq.2.2 hs)
    simpa only [Seq.print, Seq.denote, List.append_assoc, prep_prep, List.cons_append] using this

theorem body (q : Seq) (hq : q.WF) : Parses coef q.print 0 (some (q.denote coef, [], 0)) := by
  simpa using nil.seq q hq trivial

end Parses

/-! ### `scale`, and append on bodies -/

theorem scale_append (d : Rat) (a b : List (Elt × Rat)) : scale d (a ++ b) = scale d a ++ scale d b :=
  List.map_append

theorem scale_comm (x y : Rat) (l : List (Elt × Rat)) : scale x (scale y l) = scale y (scale x l) := by
  simp only [scale, List.map_map, Function.comp_def, Rat.mul_assoc, Rat.mul_comm x y]

theorem print_append (a b : Seq) : (a.append b).print = a.print ++ b.print := by
  induction a with
  | nil => rfl
  | elt n k r ih => simp [Seq.append, Seq.print, ih]
  | paren c k r _ ih => simp [Seq.append, Seq.print, ih]

theorem denote_append (coef : Rat) (a b : Seq) : (a.append b).denote coef = a.denote coef ++ b.denote coef := by
  induction a with
  | nil => rfl
  | elt n k r ih => simp [Seq.append, Seq.denote, ih]
  | paren c k r _ ih => simp [Seq.append, Seq.denote, ih]

theorem wf_append (a b : Seq) (ha : a.WF) (hb : b.WF) : (a.append b).WF := by
  induction a with
  | nil => exact hb
  | elt n k r ih => exact ⟨ha.1, ha.2.1, ih ha.2.2⟩
  | paren c k r _ ih => exact ⟨ha.1, ha.2.1, ih ha.2.2⟩

end PhreeqcVerif.Formula
