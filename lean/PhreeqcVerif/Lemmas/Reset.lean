/-
Lemmas for Properties/C07.  The wrapper theorems rest on a simulation: instances that agree on every wrapper member and
whose engines are related by a relation no engine operation can tell apart (`Respects`) stay so under every call
(`step_rel`, `trace_rel`), and `load_forgets` says what a load lets through of the instance it is applied to.
For `c07_member_engine`: engine states as valuations of numbered members (`Agree`, `unloadTable_agrees`); for the policy
obligations: `policyEvidence_eq`.
-/
import PhreeqcVerif.Model.Reset
import PhreeqcVerif.Model.ResetPolicy
import PhreeqcVerif.Gen.Members

namespace PhreeqcVerif.Reset

variable {E : Type}

theorem runOps_append (eng : Engine E) (w : W E) (a b : List Op) : runOps eng w (a ++ b) = runOps eng (runOps eng w a) b := by
  simp [runOps, List.foldl_append]

/-- a relation on engine states that no engine operation can tell apart -/
structure Respects (eng : Engine E) (R : E → E → Prop) : Prop where
  readDb : ∀ e1 e2 db, R e1 e2 → R (eng.readDb e1 db).1 (eng.readDb e2 db).1 ∧ (eng.readDb e1 db).2 = (eng.readDb e2 db).2
  readDbText : ∀ e1 e2 db, R e1 e2 → eng.readDbText e1 db = eng.readDbText e2 db
  run : ∀ e1 e2 env s, R e1 e2 → R (eng.run e1 env s).1 (eng.run e2 env s).1 ∧ (eng.run e1 env s).2 = (eng.run e2 env s).2
  unload : ∀ e1 e2, R e1 e2 → R (eng.unload e1) (eng.unload e2)
  testInput : ∀ e1 e2, R e1 e2 → eng.testInput e1 = eng.testInput e2
  components : ∀ e1 e2, R e1 e2 → eng.components e1 = eng.components e2

/-- unload reaches the fresh engine up to R -/
def EngineResetUpTo (eng : Engine E) (R : E → E → Prop) : Prop := ∀ e, R (eng.unload e) eng.fresh

/-- two instances that agree on every wrapper member and whose engines are related -/
def Rel (R : E → E → Prop) (w1 w2 : W E) : Prop :=
  w1.id = w2.id ∧ w1.sw = w2.sw ∧ w1.names = w2.names ∧ w1.c = w2.c ∧ w1.pc = w2.pc ∧ R w1.engine w2.engine

theorem Rel.exists_engine {R : E → E → Prop} {w1 w2 : W E} (h : Rel R w1 w2) :
    ∃ e2, R w1.engine e2 ∧ w2 = { w1 with engine := e2 } := by
  cases w1; cases w2
  obtain ⟨rfl, rfl, rfl, rfl, rfl, he⟩ := h
  exact ⟨_, he, rfl⟩

theorem Rel.of_engine {R : E → E → Prop} (w : W E) {e2 : E} (h : R w.engine e2) : Rel R w { w with engine := e2 } :=
  ⟨rfl, rfl, rfl, rfl, rfl, h⟩

theorem runCore_rel (eng : Engine E) (R : E → E → Prop) (hR : Respects eng R) (w1 w2 : W E) (s : String)
    (h : Rel R w1 w2) : Rel R (runCore eng w1 s).1 (runCore eng w2 s).1 ∧ (runCore eng w1 s).2 = (runCore eng w2 s).2 := by
  obtain ⟨e2, he, rfl⟩ := h.exists_engine
  have hr := hR.run w1.engine e2 (runEnv w1) s he
  unfold runCore
  cases w1.c.dbLoaded
  · exact ⟨.of_engine _ he, rfl⟩
  · simp only [Bool.not_true, Bool.false_eq_true, ↓reduceIte]
    rw [hr.2]
    exact ⟨.of_engine _ hr.1, rfl⟩

theorem runString_rel (eng : Engine E) (R : E → E → Prop) (hR : Respects eng R) (w1 w2 : W E) (s : String)
    (h : Rel R w1 w2) : Rel R (runString eng w1 s).1 (runString eng w2 s).1 ∧ (runString eng w1 s).2 = (runString eng w2 s).2 := by
  obtain ⟨e2, he, rfl⟩ := h.exists_engine
  exact runCore_rel eng R hR _ _ s (.of_engine _ he)

theorem runAccumulated_rel (eng : Engine E) (R : E → E → Prop) (hR : Respects eng R) (w1 w2 : W E)
    (h : Rel R w1 w2) : Rel R (runAccumulated eng w1).1 (runAccumulated eng w2).1 ∧ (runAccumulated eng w1).2 = (runAccumulated eng w2).2 := by
  obtain ⟨e2, -, rfl⟩ := h.exists_engine
  obtain ⟨⟨hid, hsw, hn, hc, hpc, he⟩, hres⟩ := runCore_rel eng R hR w1 _ w1.c.accumulated h
  unfold runAccumulated
  exact ⟨⟨hid, hsw, hn, congrArg (fun c => { c with clearAccumulated := true }) hc, hpc, he⟩, hres⟩

/-! ### LoadDatabase in stages: hold three file switches off, load_db, test_db when the read succeeded, restore the switches -/

def holdOff (w : W E) : W E := { w with sw := { w.sw with errFile := false, outFile := false, logFile := false } }
def restore (w : W E) (saved : Switches) : W E :=
  { w with sw := { w.sw with errFile := saved.errFile, outFile := saved.outFile, logFile := saved.logFile } }
def loadTail (eng : Engine E) (r : W E × Nat) : W E × Nat :=
  if r.2 == 0 then runString eng r.1 (eng.testInput r.1.engine) else r

theorem load_unfold (eng : Engine E) (w : W E) (db : String) :
    load eng w db = (restore (loadTail eng (loadDb eng (holdOff w) db)).1 w.sw, (loadTail eng (loadDb eng (holdOff w) db)).2) :=
  rfl

theorem restore_rel (R : E → E → Prop) (w1 w2 : W E) (s : Switches) (h : Rel R w1 w2) : Rel R (restore w1 s) (restore w2 s) := by
  obtain ⟨e2, he, rfl⟩ := h.exists_engine
  exact .of_engine _ he

theorem loadDb_loaded (eng : Engine E) (w : W E) (db : String) :
    (loadDb eng w db).1.c.dbLoaded = ((loadDb eng w db).2 == 0) := rfl

/-- a run on a loaded instance does not look at the per-call members -/
theorem runString_loaded_pc (eng : Engine E) (w : W E) (pc' : PerCall) (input : String) (h : w.c.dbLoaded = true) :
    runString eng { w with pc := pc' } input = runString eng w input := by
  simp [runString, runCore, h, runEnv]

/-- What a load keeps of an instance: the survivors, the engine after unload up to `R`, and, when the read fails,
    the per-call strings.  The result code depends on the first two only. -/
theorem load_forgets (eng : Engine E) (R : E → E → Prop) (hR : Respects eng R) (w1 w2 : W E) (db : String)
    (hs : survivors w1 = survivors w2) (hu : R (eng.unload w1.engine) (eng.unload w2.engine)) :
    (load eng w1 db).2 = (load eng w2 db).2 ∧
    ((load eng w1 db).2 = 0 ∨ w1.pc = w2.pc → Rel R (load eng w1 db).1 (load eng w2 db).1) := by
  obtain ⟨hid, hsw, hn⟩ : w1.id = w2.id ∧ w1.sw = w2.sw ∧ w1.names = w2.names := by simpa [survivors] using hs
  obtain ⟨he, hn'⟩ := hR.readDb _ _ db hu
  have ht := hR.readDbText _ _ db hu
  -- load_db: same code; the two instances differ at most in the per-call members, and not there if they did not before
  have hN : (loadDb eng (holdOff w1) db).2 = (loadDb eng (holdOff w2) db).2 := hn'
  have hA : Rel R { (loadDb eng (holdOff w1) db).1 with pc := (loadDb eng (holdOff w2) db).1.pc }
      (loadDb eng (holdOff w2) db).1 :=
    ⟨hid, by simp [loadDb, unloadDatabase, holdOff, hsw], hn, by simp [loadDb, unloadDatabase, holdOff, hn', ht], rfl, he⟩
  have hP : w1.pc = w2.pc → (loadDb eng (holdOff w1) db).1.pc = (loadDb eng (holdOff w2) db).1.pc := fun hpc => by
    simp [loadDb, unloadDatabase, holdOff, hpc, ht]
  have hL := loadDb_loaded eng (holdOff w1) db
  have hT : eng.testInput (loadDb eng (holdOff w1) db).1.engine = eng.testInput (loadDb eng (holdOff w2) db).1.engine :=
    hR.testInput _ _ he
  -- test_db and the switches: nothing more is needed of the two results `a1`, `a2` of load_db
  rw [load_unfold, load_unfold, hsw]
  generalize loadDb eng (holdOff w1) db = a1 at hN hA hP hL hT ⊢
  generalize loadDb eng (holdOff w2) db = a2 at hN hA hP hT ⊢
  unfold loadTail
  rw [hN, hT]
  by_cases hz : a2.2 = 0
  · -- the read succeeded: the test run does not look at the per-call members of `a1` and overwrites them
    have hrun := runString_rel eng R hR _ _ (eng.testInput a2.1.engine) hA
    rw [runString_loaded_pc eng a1.1 a2.1.pc _ (by rw [hL, hN, hz]; rfl)] at hrun
    simp only [hz, beq_self_eq_true, ↓reduceIte]
    exact ⟨hrun.2, fun _ => restore_rel R _ _ _ hrun.1⟩
  · simp only [beq_iff_eq, hz, ↓reduceIte, hN, false_or, true_and]
    intro hpc
    rw [← hP hpc] at hA        -- now about `{ a1.1 with pc := a1.1.pc }`, which is `a1.1`
    exact restore_rel R _ _ _ hA

theorem load_rel (eng : Engine E) (R : E → E → Prop) (hR : Respects eng R) (w1 w2 : W E) (db : String)
    (h : Rel R w1 w2) : Rel R (load eng w1 db).1 (load eng w2 db).1 ∧ (load eng w1 db).2 = (load eng w2 db).2 := by
  obtain ⟨hid, hsw, hn, -, hpc, he⟩ := h
  have hf := load_forgets eng R hR w1 w2 db (by simp [survivors, hid, hsw, hn]) (hR.unload _ _ he)
  exact ⟨hf.2 (.inr hpc), hf.1⟩

theorem step_rel (eng : Engine E) (R : E → E → Prop) (hR : Respects eng R) (w1 w2 : W E) (op : Op)
    (h : Rel R w1 w2) : Rel R (step eng w1 op) (step eng w2 op) ∧ result eng w1 op = result eng w2 op := by
  obtain ⟨e2, he, rfl⟩ := h.exists_engine
  cases op with
  | runString s => exact runString_rel eng R hR _ _ s h
  | runAccumulated => exact runAccumulated_rel eng R hR _ _ h
  | load db => exact load_rel eng R hR _ _ db h
  | listComponents =>
      refine ⟨?_, rfl⟩
      simp only [step]
      cases w1.c.compCache with
      | some l => exact h
      | none => exact ⟨rfl, rfl, rfl, by rw [hR.components _ _ he], rfl, he⟩
  -- a setter is the same function of the wrapper members on both sides and leaves the engine alone
  | setSwitch _ _ | setName _ _ | setSelStrOn _ | accumulate _ | clearAccumulated =>
      exact ⟨.of_engine _ he, rfl⟩
  | setSelName _ | setCur _ | setSelFileOn _ =>
      refine ⟨?_, rfl⟩
      simp only [step]
      split <;> exact .of_engine _ he

theorem observe_rel (eng : Engine E) (R : E → E → Prop) (hR : Respects eng R) (w1 w2 : W E) (h : Rel R w1 w2) :
    observe eng w1 = observe eng w2 := by
  obtain ⟨e2, he, rfl⟩ := h.exists_engine
  simp only [observe]
  cases w1.c.compCache with
  | some l => rfl
  | none => rw [hR.components _ _ he]

theorem trace_rel (eng : Engine E) (R : E → E → Prop) (hR : Respects eng R) (ops : List Op) :
    ∀ w1 w2 : W E, Rel R w1 w2 → trace eng w1 ops = trace eng w2 ops := by
  induction ops with
  | nil => intro _ _ _; rfl
  | cons op rest ih =>
      intro w1 w2 h
      have hs := step_rel eng R hR w1 w2 op h
      simp only [trace, hs.2, observe_rel eng R hR _ _ hs.1, ih _ _ hs.1]

/-- core of C07 for an engine that is reset only up to an indistinguishability relation R -/
theorem load_rel_fresh (eng : Engine E) (R : E → E → Prop) (hEq : Equivalence R) (hR : Respects eng R)
    (hU : EngineResetUpTo eng R) (w : W E) (db : String) (h0 : (load eng w db).2 = 0) :
    Rel R (load eng w db).1 (load eng (freshWith eng (survivors w)) db).1 ∧
    (load eng (freshWith eng (survivors w)) db).2 = 0 :=
  have hf := load_forgets eng R hR w (freshWith eng (survivors w)) db rfl (hEq.trans (hU _) (hEq.symm (hU _)))
  ⟨hf.2 (.inl h0), hf.1 ▸ h0⟩

/-- C07 at the wrapper level with the weaker engine hypothesis: result codes and all observations of every later call
    sequence coincide, for every history -/
theorem load_then_calls_eq_fresh_upto (eng : Engine E) (R : E → E → Prop) (hEq : Equivalence R) (hR : Respects eng R)
    (hU : EngineResetUpTo eng R) (i : Nat) (hist later : List Op) (db : String)
    (h0 : (load eng (runOps eng (create eng i) hist) db).2 = 0) :
    trace eng (load eng (runOps eng (create eng i) hist) db).1 later =
    trace eng (load eng (freshWith eng (survivors (runOps eng (create eng i) hist))) db).1 later :=
  trace_rel eng R hR later _ _ (load_rel_fresh eng R hEq hR hU _ db h0).1

/-- equality is respected by every engine, and instances related by it are equal: the `EngineReset` form of C07 is the
    case `R = Eq` -/
theorem respects_eq (eng : Engine E) : Respects eng Eq where
  readDb := by rintro _ _ _ rfl; exact ⟨rfl, rfl⟩
  readDbText := by rintro _ _ _ rfl; rfl
  run := by rintro _ _ _ _ rfl; exact ⟨rfl, rfl⟩
  unload := by rintro _ _ rfl; rfl
  testInput := by rintro _ _ rfl; rfl
  components := by rintro _ _ rfl; rfl

theorem rel_eq {w1 w2 : W E} : Rel Eq w1 w2 ↔ w1 = w2 := by
  cases w1; cases w2; simp [Rel]

theorem load_forgets_eq (eng : Engine E) (hE : EngineReset eng) (w w' : W E) (db : String)
    (hs : survivors w = survivors w') :
    (load eng w db).2 = (load eng w' db).2 ∧ ((load eng w db).2 = 0 → (load eng w db).1 = (load eng w' db).1) :=
  have hf := load_forgets eng Eq (respects_eq eng) w w' db hs ((hE _).trans (hE _).symm)
  ⟨hf.1, fun h0 => rel_eq.mp (hf.2 (.inl h0))⟩

/-! ### engines whose state is a valuation of numbered members -/

/-- agreement on the members that can reach a result -/
def Agree {V : Type} (live : Nat → Bool) (e1 e2 : Nat → V) : Prop := ∀ i, live i = true → e1 i = e2 i

theorem agree_equivalence {V : Type} (live : Nat → Bool) : Equivalence (Agree (V := V) live) where
  refl := fun _ _ _ => rfl
  symm := fun h i hi => (h i hi).symm
  trans := fun h1 h2 i hi => (h1 i hi).trans (h2 i hi)

/-- the reset path as the extracted tables describe it: member i gets its fresh value iff `resetBy i` -/
def unloadTable {V : Type} (fresh : Nat → V) (resetBy : Nat → Bool) (e : Nat → V) : Nat → V :=
  fun i => if resetBy i then fresh i else e i

theorem unloadTable_agrees {V : Type} (fresh : Nat → V) (resetBy live : Nat → Bool)
    (h : ∀ i, live i = true → resetBy i = true) (e : Nat → V) : Agree live (unloadTable fresh resetBy e) fresh := by
  intro i hi
  simp [unloadTable, h i hi]

end PhreeqcVerif.Reset

namespace PhreeqcVerif.Gen.Members
open PhreeqcVerif.ResetPolicy

/-- Every code shape claimed in `healedBy`, `scratchWriter`, `ioHealedBy`, `freedElsewhere` was found in the AST.
    tools/gen_members.py writes `policyEvidence` by running through these four lists in this order and keeping the claims
    the AST confirms, so the order depends on Model/ResetPolicy.lean alone and equality fails exactly when a claim is missing. -/
theorem policyEvidence_eq : policyEvidence = healedBy ++ scratchWriter ++ ioHealedBy ++ freedElsewhere := rfl

end PhreeqcVerif.Gen.Members
