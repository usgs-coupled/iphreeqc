import PhreeqcVerif.Model.Sched
import PhreeqcVerif.Lemmas.Registry
/-! One step of the scheduling model (Model/Sched.lean): it keeps the invariant, and what a thread observes changes as if
the thread ran alone. -/
namespace PhreeqcVerif.Sched
open PhreeqcVerif.Registry

theorem modAt_eq_modify {α} (l : List α) (h : Nat) (u : α → α) : modAt l h u = l.modify h u := by
  induction l generalizing h with
  | nil => simp [modAt]
  | cons a as ih => cases h <;> simp [modAt, ih]

/-- the handles after thread `t` was given the new id `n` -/
theorem mem_setH_append {hs : Nat → List Nat} {t t' n id : Nat} :
    id ∈ setH hs t (hs t ++ [n]) t' ↔ id ∈ hs t' ∨ (t' = t ∧ id = n) := by
  unfold setH
  split
  · subst t'; simp
  · simp [*]

theorem inv_init {σ} : (Sys.init : Sys σ).Inv :=
  ⟨.init, by simp [Sys.init], by simp [Sys.init], by simp [Sys.init]⟩

theorem inv_step {σ} (fresh0 : σ) (s : Sys σ) (h : s.Inv) (e : Nat × TOp σ) : (s.step fresh0 e).Inv := by
  obtain ⟨t, op⟩ := e
  cases op with
  | create =>
    simp only [Sys.step]
    refine ⟨h.reg.create fun _ => fresh0, fun t' id hid => ?_, fun t' => ?_, fun t1 t2 hne id h1 h2 => ?_⟩
    · rcases mem_setH_append.1 hid with hid | ⟨_, rfl⟩
      · exact Nat.lt_succ_of_lt (h.below t' id hid)
      · exact Nat.lt_succ_self _
    · dsimp only [setH]
      split
      · refine List.nodup_append.2 ⟨h.nodup t, List.nodup_cons.2 ⟨List.not_mem_nil, List.nodup_nil⟩, fun a ha b hb => ?_⟩
        rw [List.mem_singleton.1 hb]
        exact Nat.ne_of_lt (h.below t a ha)
      · exact h.nodup t'
    · -- the new id is above every handle, so only old handles can be shared
      rcases mem_setH_append.1 h1 with a1 | ⟨rfl, e1⟩ <;> rcases mem_setH_append.1 h2 with a2 | ⟨rfl, e2⟩
      · exact h.disj t1 t2 hne id a1 a2
      · exact Nat.lt_irrefl _ (e2 ▸ h.below t1 id a1)
      · exact Nat.lt_irrefl _ (e1 ▸ h.below t2 id a2)
      · exact hne rfl
  | destroy hd =>
    simp only [Sys.step]
    split
    · exact ⟨h.reg.destroy _, by simpa only [next_destroy] using h.below, h.nodup, h.disj⟩
    · exact h
  | call hd f =>
    simp only [Sys.step]
    split
    · exact ⟨h.reg.apply _ _ _, by simpa only [next_apply] using h.below, h.nodup, h.disj⟩
    · exact h

theorem inv_run {σ} (fresh0 : σ) (sch : List (Nat × TOp σ)) (s : Sys σ) (h : s.Inv) : (s.run fresh0 sch).Inv :=
  List.foldlRecOn sch _ h fun s h e _ => inv_step fresh0 s h e

/-- A step that changes the registry by `u` at the id behind handle `hd` of thread `t`, if `t` has that handle, updates
the `hd`-th observation of `t` and is invisible to every other thread.  The `match` is what `Sys.step` is by definition on
`(t, .destroy hd)` and on `(t, .call hd f)`, with `r' id` the registry after the operation on `id`. -/
theorem obs_handle {σ} (s : Sys σ) (h : s.Inv) (t hd : Nat) (r' : Nat → Reg σ) (u : Option σ → Option σ)
    (hl : ∀ (id : Nat) (j : Int), (r' id).lookup j = if j = id then u (s.reg.lookup id) else s.reg.lookup j) (t' : Nat) :
    (match (s.handles t)[hd]? with
      | some id => (⟨r' id, s.handles⟩ : Sys σ)
      | none => s).obs t' = if t' = t then modAt (s.obs t) hd u else s.obs t' := by
  split
  · rename_i id hid
    have hlook : ∀ j : Nat, (r' id).lookup j = if j = id then u (s.reg.lookup id) else s.reg.lookup j := fun j => by
      simp only [hl, Int.natCast_inj]
    split
    · subst t'
      refine List.ext_getElem? fun n => ?_
      simp only [Sys.obs, modAt_eq_modify, List.getElem?_modify, List.getElem?_map]
      cases hn : (s.handles t)[n]? with
      | none => rfl
      | some j =>
        -- by `nodup`, position `n` holds `id` exactly when `n = hd`
        have hlt : hd < (s.handles t).length := (List.getElem?_eq_some_iff.1 hid).1
        have : j = id ↔ hd = n := by
          rw [← List.getElem?_inj hlt (h.nodup t), hid, hn, Option.some_inj, eq_comm]
        by_cases hj : j = id
        · simp [hlook, hj, this.1 hj]
        · simp [hlook, hj, mt this.2 hj]
    · rename_i ht
      refine List.map_congr_left fun j hj => ?_
      rw [hlook, if_neg]
      exact fun e => h.disj t t' (Ne.symm ht) id (List.mem_of_getElem? hid) (e ▸ hj)
  · rename_i hn
    rw [modAt_eq_modify, List.modify_eq_self (by simpa [Sys.obs] using hn)]
    exact (ite_eq_right_iff.2 fun e => e ▸ rfl).symm

/-- a step of thread `t` changes what `t` observes exactly as the same operation does when `t` runs alone, and is
invisible to every other thread -/
theorem obs_step {σ} (fresh0 : σ) (s : Sys σ) (h : s.Inv) (t t' : Nat) (op : TOp σ) :
    (s.step fresh0 (t, op)).obs t' = if t' = t then aloneStep fresh0 (s.obs t) op else s.obs t' := by
  cases op with
  | create =>
    have hk : ∀ id ∈ s.handles t', (s.reg.create fun _ => fresh0).1.lookup id = s.reg.lookup id := fun id hid => by
      rw [lookup_create, if_neg (by have := h.below t' id hid; omega)]
    simp only [Sys.step, Sys.obs, aloneStep, setH]
    split
    · subst t'
      rw [List.map_append, List.map_congr_left hk]
      simp [lookup_create]
    · exact List.map_congr_left hk
  | destroy hd => exact obs_handle s h t hd _ (fun _ => none) (fun id j => lookup_destroy s.reg id j) t'
  | call hd f => exact obs_handle s h t hd _ (Option.map f) (fun id j => lookup_apply s.reg id j _ _) t'

end PhreeqcVerif.Sched
