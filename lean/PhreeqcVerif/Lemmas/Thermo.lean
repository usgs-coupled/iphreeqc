import PhreeqcVerif.Model.Speciation
import PhreeqcVerif.Lemmas.NumOps
import Mathlib.Tactic.Ring
import Mathlib.Algebra.Order.Field.Rat
/-! Lemmas about `Model/Thermo.lean` and `Model/Speciation.lean`, over `ratOps f` for an arbitrary (uninterpreted)
`f : TransFns Rat`: `k_calc` as a linear form in the log K vector (`kCalc_eq_dot`) and `add_other_logk` as `trxn_add` of the
selected expression; linear algebra of token lists (`evalBody`, `coefOf`, `normalise` …); the induction over the substitution
steps of `rewriteToMasters` (`rewrite_induction`); two facts about sums over a list, used for the valence totals. -/
namespace PhreeqcVerif

namespace Thermo

def LogK.dot (w p : LogK Rat) : Rat :=
  w.k0 * p.k0 + w.dh * p.dh + w.a1 * p.a1 + w.a2 * p.a2 + w.a3 * p.a3 + w.a4 * p.a4 + w.a5 * p.a5 + w.a6 * p.a6
    + w.dv * p.dv

theorem LogK.dot_add (f : TransFns Rat) (w p q : LogK Rat) :
    letI := ratOps f; w.dot (p.add q) = w.dot p + w.dot q := by
  simp only [LogK.dot, LogK.add]
  ring

theorem LogK.dot_smul (f : TransFns Rat) (w : LogK Rat) (c : Rat) (p : LogK Rat) :
    letI := ratOps f; w.dot (LogK.smul c p) = c * w.dot p := by
  simp only [LogK.dot, LogK.smul]
  ring

theorem LogK.addScaled_eq (f : TransFns Rat) (p : LogK Rat) (c : Rat) (q : LogK Rat) :
    letI := ratOps f; p.addScaled c q = p.add (LogK.smul c q) := rfl

/-- the coefficients of `k_calc(·, T, P)`: what multiplies each entry of the log K vector -/
def kCoef (f : TransFns Rat) (T P : Rat) : LogK Rat :=
  ⟨1, -((tRef - T) / (f.ln 10 * (T * rKJ) * tRef)), 1, T, 1 / T, f.log10 T, 1 / (T * T), T * T,
   if 0 < P - pRef then -(1 / 1000000000 * (P - pRef) / (f.ln 10 * (T * rKJ))) else 0⟩

/-- what `k_calc` does to a combination of log K vectors (`trxn_add`, `add_other_logk`, `add_logks`, `trxn_swap`) follows
from this and `dot_add`, `dot_smul` without unfolding `kCalc` again -/
theorem kCalc_eq_dot (f : TransFns Rat) (p : LogK Rat) (T P : Rat) :
    letI := ratOps f; kCalc p T P = (kCoef f T P).dot p := by
  simp only [kCalc, kCoef, LogK.dot, rat_ops]
  by_cases h : 0 < P - pRef
  · simp only [h, if_true]
    ring
  · simp only [h, if_false]
    ring

/-- `add_other_logk` is `trxn_add` of the SELECTED named expression -/
theorem addOther_eq_addScaled (f : TransFns Rat) (src nm : LogK Rat) (c : Rat) :
    letI := ratOps f; addOther src nm c = src.addScaled c (selectExpr nm) := by
  simp only [addOther, selectExpr, LogK.addScaled, rat_ops]
  split <;> simp only [zero_mul, add_zero, mul_comm c]

/-- hence `-add_logk` lines act like `add_logks` on the selected expressions -/
theorem combineLogK_eq_combineNamed (f : TransFns Rat) (own : LogK Rat) (adds : List (LogK Rat × Rat)) :
    letI := ratOps f
    combineLogK own adds = combineNamed own (adds.map fun nc => (selectExpr nc.1, nc.2)) := by
  simp only [combineLogK, combineNamed, List.foldl_map, addOther_eq_addScaled]

end Thermo

namespace Speciation
open PhreeqcVerif.Thermo

section
variable (f : TransFns Rat)

theorem evalBody_nil (v : String → Rat) : letI := ratOps f; evalBody v [] = 0 := rfl

theorem evalBody_cons (v : String → Rat) (n : String) (c : Rat) (t : List (String × Rat)) :
    letI := ratOps f; evalBody v ((n, c) :: t) = c * v n + evalBody v t := rfl

theorem evalBody_append (v : String → Rat) (a b : List (String × Rat)) :
    letI := ratOps f; evalBody v (a ++ b) = evalBody v a + evalBody v b := by
  induction a with
  | nil => simp only [List.nil_append, evalBody_nil, zero_add]
  | cons p t ih => obtain ⟨n, c⟩ := p; simp only [List.cons_append, evalBody_cons, ih, add_assoc]

theorem evalBody_scaleBody (v : String → Rat) (c : Rat) (b : List (String × Rat)) :
    letI := ratOps f; evalBody v (scaleBody c b) = c * evalBody v b := by
  induction b with
  | nil => simp only [scaleBody, List.map_nil, evalBody_nil, mul_zero]
  | cons p t ih =>
    obtain ⟨n, x⟩ := p
    simp only [scaleBody, List.map_cons, evalBody_cons, mul_add, mul_assoc] at ih ⊢
    rw [ih]

theorem evalBody_removeName (v : String → Rat) (n : String) (b : List (String × Rat)) :
    letI := ratOps f; evalBody v (removeName n b) + coefOf n b * v n = evalBody v b := by
  unfold removeName
  fun_induction @coefOf Rat (ratOps f) n b with
  | case1 => exact (zero_add _).trans (zero_mul (v n))
  | case2 m x t h ih =>   -- the head is a term in `n`: filtered out, counted by `coefOf`
    rw [List.filter_cons_of_neg (by simpa using h), evalBody_cons, ← ih, eq_of_beq h]
    ring
  | case3 m x t h ih =>   -- any other head: kept
    rw [List.filter_cons_of_pos (by simpa using h), evalBody_cons, evalBody_cons, ← ih]
    ring

theorem evalBody_addTerm (v : String → Rat) (n : String) (c : Rat) (b : List (String × Rat)) :
    letI := ratOps f; evalBody v (addTerm n c b) = evalBody v b + c * v n := by
  fun_induction @addTerm Rat (ratOps f) n c b with
  | case1 => exact add_comm (c * v n) 0
  | case2 m x t h =>   -- the head is a term in `n`: `c` joins its coefficient
    rw [evalBody_cons, evalBody_cons, eq_of_beq h]
    ring
  | case3 m x t h ih =>   -- any other head: passed over
    rw [evalBody_cons, evalBody_cons, ih]
    ring

theorem evalBody_mergeInto (v : String → Rat) (acc b : List (String × Rat)) :
    letI := ratOps f; evalBody v (mergeInto acc b) = evalBody v acc + evalBody v b := by
  induction b generalizing acc with
  | nil => simp only [mergeInto, evalBody_nil, add_zero]
  | cons p t ih =>
    obtain ⟨m, x⟩ := p
    simp only [mergeInto, ih, evalBody_addTerm, evalBody_cons]
    ring

theorem evalBody_filterDrop (v : String → Rat) (drop : Rat → Bool) (hdrop : ∀ c, drop c = true → c = 0)
    (b : List (String × Rat)) :
    letI := ratOps f; evalBody v (b.filter fun p => !(drop p.2)) = evalBody v b := by
  induction b with
  | nil => rfl
  | cons p t ih =>
    obtain ⟨m, x⟩ := p
    cases h : drop x with
    | true =>
      simp only [List.filter_cons, h, Bool.not_true, Bool.false_eq_true, if_false, ih]
      rw [evalBody_cons, hdrop x h, zero_mul, zero_add]
    | false => simp only [List.filter_cons, h, Bool.not_false, if_true, evalBody_cons, ih]

theorem evalBody_normalise (v : String → Rat) (drop : Rat → Bool) (hdrop : ∀ c, drop c = true → c = 0)
    (b : List (String × Rat)) :
    letI := ratOps f; evalBody v (normalise drop b) = evalBody v b := by
  simp only [normalise, evalBody_filterDrop f v drop hdrop, evalBody_mergeInto, evalBody_nil, zero_add]

theorem substOne_head (n : String) (d e : Eqn Rat) : letI := ratOps f; (substOne n d e).head = e.head := rfl

theorem residual_substOne (la : String → Rat) (K : LogK Rat → Rat)
    (hK : letI := ratOps f; ∀ (p q : LogK Rat) (c : Rat), K (p.addScaled c q) = K p + c * K q)
    (n : String) (d e : Eqn Rat) (hd : d.head = n) :
    letI := ratOps f
    residual la K (substOne n d e) = residual la K e + coefOf n e.body * residual la K d := by
  simp only [residual, substOne, hK, evalBody_append, evalBody_scaleBody, hd, ← evalBody_removeName f la n e.body]
  ring

theorem residual_normalise (la : String → Rat) (K : LogK Rat → Rat) (drop : Rat → Bool)
    (hdrop : ∀ c, drop c = true → c = 0) (e : Eqn Rat) :
    letI := ratOps f
    residual la K { e with body := normalise drop e.body } = residual la K e := by
  simp only [residual, evalBody_normalise f la drop hdrop]

/-- what a successful rewrite establishes: whatever holds of the start and is kept by every substitution step
(`substOne` for the first token not in use, then `normalise`), and that no token out of use is left -/
theorem rewrite_induction (drop : Rat → Bool) (inUse : String → Bool) (defs : String → Option (Eqn Rat))
    (R : Eqn Rat → Prop)
    (hstep : letI := ratOps f; ∀ e n d, firstOut inUse e.body = some n → defs n = some d → R e →
      R { substOne n d e with body := normalise drop (substOne n d e).body })
    (fuel : Nat) (e e' : Eqn Rat) :
    letI := ratOps f
    rewriteToMasters drop inUse defs fuel e = some e' → R e → R e' ∧ firstOut inUse e'.body = none := by
  fun_induction @rewriteToMasters Rat (ratOps f) drop inUse defs fuel e with
  | case1 fuel e hfo => intro h he; cases h; exact ⟨he, hfo⟩   -- no token out of use: `e` is returned
  | case2 => intro h; cases h   -- fuel exhausted
  | case3 => intro h; cases h   -- a species without defining equation
  | case4 e n hfo fuel d hd e1 ih => intro h he; exact ih h (hstep e n d hfo hd he)   -- one substitution step

end
end Speciation

/-! ### sums over a list -/

theorem sum_map_zero {β : Type} (ms : List β) : (ms.map (fun _ => (0 : Rat))).sum = 0 := by
  induction ms with
  | nil => rfl
  | cons x t ih => rw [List.map_cons, List.sum_cons, ih, add_zero]

theorem sum_map_mul_add {β : Type} (ms : List β) (a b : β → Rat) (c : Rat) :
    (ms.map (fun m => a m * c + b m)).sum = (ms.map a).sum * c + (ms.map b).sum := by
  induction ms with
  | nil => simp only [List.map_nil, List.sum_nil, zero_mul, add_zero]
  | cons x t ih =>
    simp only [List.map_cons, List.sum_cons, ih]
    ring

end PhreeqcVerif
