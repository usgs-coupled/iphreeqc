import PhreeqcVerif.Model.Route
/-!
Equations for the routing model (`Model/Route.lean`) on which `Properties/Route.lean` rests. The central ones say what one
punch event does to the sinks of a single user number, for the one-call machine `PSinks.step` and the history machine
`HSinks.step`; `foldl_sink` lifts such step equations to whole traces (text sinks: `flatMap` of `PEv.textFor` over the
events since the last effective `punch_open`; table: the fold of `PEv.tabFor`).
-/
namespace PhreeqcVerif.Route
open PhreeqcVerif.SelOut

/-- A list-valued component `π` of the state of a fold which every step extends by `g e`, as long as an invariant `I`
holds, ends up extended by the `g`-image of the whole input. -/
theorem foldl_sink {σ ε α} {step : σ → ε → σ} {π : σ → List α} {g : ε → List α} {I : σ → Prop} {evs : List ε}
    (h : ∀ s, ∀ e ∈ evs, I s → I (step s e) ∧ π (step s e) = π s ++ g e) {s : σ} (hs : I s) :
    I (evs.foldl step s) ∧ π (evs.foldl step s) = π s ++ evs.flatMap g := by
  induction evs generalizing s with
  | nil => simp [hs]
  | cons e evs ih =>
    obtain ⟨hI, hπ⟩ := h s e (by simp) hs
    obtain ⟨hI', hπ'⟩ := ih (fun s x hx => h s x (by simp [hx])) hI
    exact ⟨hI', by simp [hπ', hπ]⟩

/-! ### line splitting -/

theorem splitLines_newline (cs : List Char) : splitLines ('\n' :: cs) = [] :: splitLines cs := by
  simp [splitLines]

theorem splitLines_cons_nil {c : Char} {cs : List Char} (hc : c ≠ '\n') (h : splitLines cs = []) :
    splitLines (c :: cs) = [[c]] := by
  simp [splitLines, hc, h]

theorem splitLines_cons_cons {c : Char} {cs l : List Char} {ls : List (List Char)} (hc : c ≠ '\n')
    (h : splitLines cs = l :: ls) : splitLines (c :: cs) = (c :: l) :: ls := by
  simp [splitLines, hc, h]

theorem splitLines_eq_nil (s : List Char) : splitLines s = [] ↔ s = [] := by
  induction s using splitLines.induct with
  | case1 => simp [splitLines]
  | case2 cs _ => simp [splitLines_newline]
  | case3 c cs hc h _ => simp [splitLines_cons_nil hc h]
  | case4 c cs hc l ls h _ => simp [splitLines_cons_cons hc h]

/-! ### plain streams, error stream -/
/-- the text a plain sink whose switch is `b` receives from a message -/
def Msg.gated (b : Bool) (m : Msg) : List Char := if b && m.on then m.text else []

theorem Msg.gated_false (m : Msg) : m.gated false = [] := rfl

theorem routeMsgs_eq (cfg : MsgCfg) (ms : List Msg) :
    (routeMsgs cfg ms).str = ms.flatMap (Msg.gated cfg.strOn) ∧
    (routeMsgs cfg ms).file = ms.flatMap (Msg.gated cfg.fileOn) :=
  ⟨(foldl_sink (π := MsgSinks.str) (I := fun _ => True)
      (fun s m _ _ => ⟨trivial, by simp only [MsgSinks.step, Msg.gated]; split <;> simp⟩) trivial).2,
   (foldl_sink (π := MsgSinks.file) (I := fun _ => True)
      (fun s m _ _ => ⟨trivial, by simp only [MsgSinks.step, Msg.gated]; split <;> simp⟩) trivial).2⟩

theorem errFile_nil_of_disabled (cfg : ErrCfg) (es : List ErrEv) (h : cfg.fileOn = false) :
    errFileChunks cfg es = [] := by
  induction es with
  | nil => rfl
  | cons e es ih => cases e <;> simp [errFileChunks, h, ih]

/-! ### selected output -/

theorem upd_apply {β} (f : Int → β) (m n : Int) (g : β → β) : upd f m g n = if m = n then g (f n) else f n := by
  simp only [upd, eq_comm]

theorem upd_gate (f : Int → List Char) (b : Int → Bool) (on : Bool) (t : List Char) (m n : Int) :
    upd f m (fun x => if b m && on then x ++ t else x) n =
      f n ++ if m = n then (if b n && on then t else []) else [] := by
  by_cases h : m = n
  · subst h; cases b m && on <;> simp [upd]
  · simp [upd, h, Ne.symm h]

/-- the text a sink of user number `n` whose switch is `b` receives from an event. (By cases on the event, not through
`e.user`: after `simp` unfolds `PEv.user` the `Decidable` instance of `e.user = n` still mentions it, and `ite` lemmas
fail to apply.) -/
def PEv.textFor (b : Bool) (n : Int) : PEv → List Char
  | .msg m on t => if m = n then (if b && on then t else []) else []
  | .val m on _ _ r => if m = n then (if b && on then r else []) else []
  | _ => []

/-- the event is a `punch_open` for user number `n` -/
def PEv.opens (n : Int) : PEv → Bool
  | .reopen m => m = n
  | _ => false

/-- what an event does to the table of user number `n` -/
def PEv.tabFor (n : Int) : PEv → Table → Table
  | .val m _ name v _, t => if m = n then t.pushBack name v else t
  | .endRow m pending, t => if m = n then (pushPending t pending).endRow else t
  | _, t => t

theorem PEv.textFor_false (n : Int) (e : PEv) : e.textFor false n = [] := by
  cases e <;> simp [PEv.textFor]

theorem PEv.textFor_reopen (b : Bool) (m n : Int) : (PEv.reopen m).textFor b n = [] := rfl

theorem PEv.opens_reopen (n : Int) : (PEv.reopen n).opens n = true := by
  simp [PEv.opens]

theorem PEv.opens_of_ne {n : Int} {e : PEv} (h : e ≠ .reopen n) : e.opens n = false := by
  cases e <;> simp_all [PEv.opens]

theorem PEv.textFor_true (n : Int) (e : PEv) : e.textFor true n = if e.user = n then e.text else [] := by
  cases e with
  | msg | val => rfl
  | endRow | reopen => exact (ite_self _).symm

theorem flatMap_textFor (b : Bool) (n : Int) (evs : List PEv) :
    evs.flatMap (PEv.textFor b n) = if b then (evs.filter (·.user = n)).flatMap PEv.text else [] := by
  cases b
  · simp [PEv.textFor_false]
  · induction evs with
    | nil => rfl
    | cons e evs ih =>
      simp only [List.flatMap_cons, List.filter_cons, ih, PEv.textFor_true, decide_eq_true_eq, if_true]
      split <;> simp

/-- no text for `n` before its `punch_open`: the events up to and including the open contribute nothing to `n` -/
theorem flatMap_textFor_reopen {n : Int} {pre : List PEv} (post : List PEv)
    (hpre : (pre.filter (·.user = n)).flatMap PEv.text = []) :
    (pre ++ [PEv.reopen n] ++ post).flatMap (PEv.textFor true n) = post.flatMap (PEv.textFor true n) := by
  have hpre' : pre.flatMap (PEv.textFor true n) = [] := by rw [flatMap_textFor]; exact hpre
  rw [List.flatMap_append, List.flatMap_append, hpre', List.flatMap_singleton, PEv.textFor_reopen]
  rfl

/-! ### one step of `routePunch`, seen from user number `n` -/

theorem PSinks.step_str (cfg : PCfg) (s : PSinks) (e : PEv) (n : Int) :
    (s.step cfg e).str n = s.str n ++ e.textFor (cfg.strOn n) n := by
  cases e <;> simp only [PSinks.step, PEv.textFor, upd_gate, List.append_nil]

theorem PSinks.step_file (cfg : PCfg) (s : PSinks) (e : PEv) (n : Int) :
    (s.step cfg e).file n = if e.opens n then [] else s.file n ++ e.textFor (cfg.fileOn n) n := by
  cases e with
  | reopen m => simp [PSinks.step, PEv.opens, PEv.textFor, upd_apply]
  | _ => simp only [PSinks.step, PEv.textFor, PEv.opens, upd_gate, List.append_nil, Bool.false_eq_true, if_false]

theorem PSinks.step_tab (cfg : PCfg) (s : PSinks) (e : PEv) (n : Int) :
    (s.step cfg e).tab n = e.tabFor n (s.tab n) := by
  cases e <;> simp only [PSinks.step, PEv.tabFor, upd_apply]

/-! ### one step of `punchCall`, seen from user number `n` -/

theorem HSinks.step_str (cfg : PCfg) (s : HSinks) (e : PEv) (n : Int) :
    (s.step cfg e).str n = s.str n ++ e.textFor (cfg.strOn n) n := by
  cases e with
  | reopen m => simp only [HSinks.step]; split <;> simp [PEv.textFor]
  | _ => simp only [HSinks.step, PEv.textFor, upd_gate, List.append_nil]

theorem HSinks.step_att (cfg : PCfg) (s : HSinks) (e : PEv) (n : Int) :
    (s.step cfg e).att n = (s.att n || e.opens n && cfg.fileOn n) := by
  cases e with
  | reopen m =>
    simp only [HSinks.step, PEv.opens]
    by_cases hm : m = n
    · subst hm; cases cfg.fileOn m <;> simp [upd_apply]
    · cases cfg.fileOn m <;> simp [upd_apply, hm]
  | _ => simp [HSinks.step, PEv.opens]

theorem HSinks.step_file (cfg : PCfg) (s : HSinks) (e : PEv) (n : Int) :
    (s.step cfg e).file n =
      if e.opens n && cfg.fileOn n then [] else s.file n ++ e.textFor (s.att n) n := by
  cases e with
  | reopen m =>
    simp only [HSinks.step, PEv.opens, PEv.textFor, List.append_nil]
    by_cases hm : m = n
    · subst hm; cases cfg.fileOn m <;> simp [upd_apply]
    · cases cfg.fileOn m <;> simp [upd_apply, hm]
  | _ => simp only [HSinks.step, PEv.textFor, PEv.opens, upd_gate, List.append_nil, Bool.false_and, Bool.false_eq_true,
      if_false]

theorem HSinks.step_tab (cfg : PCfg) (s : HSinks) (e : PEv) (n : Int) :
    (s.step cfg e).tab n = e.tabFor n (s.tab n) := by
  cases e with
  | reopen m => simp only [HSinks.step]; split <;> rfl
  | _ => simp only [HSinks.step, PEv.tabFor, upd_apply]

/-! ### whole traces

`routePunch_*` / `punchCall_*`: the run from the initial sinks; `PSinks.foldl_*` / `HSinks.foldl_*`: from any sinks. -/

theorem routePunch_str (cfg : PCfg) (evs : List PEv) (n : Int) :
    (routePunch cfg evs).str n = evs.flatMap (PEv.textFor (cfg.strOn n) n) :=
  (foldl_sink (π := fun s : PSinks => s.str n) (I := fun _ => True)
    (fun s e _ _ => ⟨trivial, s.step_str cfg e n⟩) trivial).2

/-- the table of `n` sees the trace only through `tabFor n`: no switch, no other user number -/
theorem routePunch_tab (cfg : PCfg) (evs : List PEv) (n : Int) :
    (routePunch cfg evs).tab n = evs.foldl (fun t e => e.tabFor n t) Table.init :=
  (List.foldl_hom (fun s : PSinks => s.tab n) fun s e => (s.step_tab cfg e n).symm).symm

theorem PSinks.foldl_file (cfg : PCfg) (evs : List PEv) (s : PSinks) (n : Int)
    (hno : ∀ e ∈ evs, e ≠ .reopen n) :
    (evs.foldl (PSinks.step cfg) s).file n = s.file n ++ evs.flatMap (PEv.textFor (cfg.fileOn n) n) :=
  (foldl_sink (π := fun s : PSinks => s.file n) (I := fun _ => True)
    (fun s e he _ => ⟨trivial, by simp [s.step_file, PEv.opens_of_ne (hno e he)]⟩) trivial).2

/-- re-opening truncates: the file of `n` holds the text punched since its last `punch_open` -/
theorem PSinks.foldl_file_reopen (cfg : PCfg) (pre post : List PEv) (s : PSinks) (n : Int)
    (hpost : ∀ e ∈ post, e ≠ .reopen n) :
    ((pre ++ [PEv.reopen n] ++ post).foldl (PSinks.step cfg) s).file n =
      post.flatMap (PEv.textFor (cfg.fileOn n) n) := by
  rw [List.foldl_append, PSinks.foldl_file cfg post _ n hpost, List.foldl_append]
  simp [PSinks.step_file, PEv.opens_reopen]

/-- while no `punch_open` for `n` takes effect, the attachment of `n` does not change and the file of `n`
receives the text of `n`'s events exactly when a stream is attached -/
theorem HSinks.foldl_file (cfg : PCfg) (evs : List PEv) (s : HSinks) (n : Int)
    (hno : ∀ e ∈ evs, (e.opens n && cfg.fileOn n) = false) :
    (evs.foldl (HSinks.step cfg) s).att n = s.att n ∧
    (evs.foldl (HSinks.step cfg) s).file n = s.file n ++ evs.flatMap (PEv.textFor (s.att n) n) :=
  foldl_sink (π := fun x : HSinks => x.file n) (I := fun x => x.att n = s.att n)
    (fun x e he hx => by simp [x.step_att, x.step_file, hno e he, hx]) rfl

/-- a `punch_open` for `n` with the file switch on truncates the file and attaches the stream: the file of `n` holds
the text punched since, whatever was on disk and whether or not a stream was attached before -/
theorem HSinks.foldl_file_reopen (cfg : PCfg) (pre post : List PEv) (s : HSinks) (n : Int)
    (hon : cfg.fileOn n = true) (hpost : ∀ e ∈ post, e ≠ .reopen n) :
    ((pre ++ [PEv.reopen n] ++ post).foldl (HSinks.step cfg) s).file n = post.flatMap (PEv.textFor true n) := by
  rw [List.foldl_append,
    (HSinks.foldl_file cfg post _ n fun e he => by rw [PEv.opens_of_ne (hpost e he), Bool.false_and]).2,
    List.foldl_append]
  simp [HSinks.step_file, HSinks.step_att, PEv.opens_reopen, hon]

theorem punchCall_str (cfg : PCfg) (old : Int → List Char) (evs : List PEv) (n : Int) :
    (punchCall cfg old evs).str n = evs.flatMap (PEv.textFor (cfg.strOn n) n) :=
  (foldl_sink (π := fun s : HSinks => s.str n) (I := fun _ => True)
    (fun s e _ _ => ⟨trivial, s.step_str cfg e n⟩) trivial).2

theorem punchCall_tab (cfg : PCfg) (old : Int → List Char) (evs : List PEv) (n : Int) :
    (punchCall cfg old evs).tab n = evs.foldl (fun t e => e.tabFor n t) Table.init :=
  (List.foldl_hom (fun s : HSinks => s.tab n) fun s e => (s.step_tab cfg e n).symm).symm

/-! ### heading lines per call (`do_run` prologue) -/

theorem filter_const_false {α} (l : List α) : l.filter (fun _ => false) = [] :=
  List.filter_eq_nil_iff.2 (fun _ _ => Bool.false_ne_true)

theorem filter_const_true {α} (l : List α) : l.filter (fun _ => true) = l :=
  List.filter_eq_self.2 (fun _ _ => rfl)

theorem count_head_map_head (n : Int) (l : List Int) : (l.map Sk.head).count (Sk.head n) = l.count n := by
  induction l with
  | nil => rfl
  | cons a l ih => simp [List.count_cons, ih]

theorem countHead_opened_heads (n : Int) (os : List Int) {l : List Int} (hn : l.Nodup) :
    countHead n (os.map Sk.opened ++ l.map Sk.head) = if n ∈ l then 1 else 0 := by
  have h0 : (os.map Sk.opened).count (Sk.head n) = 0 := List.count_eq_zero.2 (by simp)
  rw [countHead, List.count_append, h0, count_head_map_head, hn.count, Nat.zero_add]

/-- skeleton of the first-simulation prologue of a call that reads no SELECTED_OUTPUT block, with the hoisted loop:
the `punch_open`s still due (when PRINT -selected_output is on), then one heading line per defined block -/
theorem simPrologue_hoisted_first (fileSw : Int → Bool) (prPunch : Bool) (s : SoSt) :
    (simPrologue true fileSw true prPunch true [] s).2 =
      (if prPunch then s.defs.filter (fun d => fileSw d && !s.att d) else []).map Sk.opened ++
        s.defs.map Sk.head := by
  simp only [simPrologue, readBlocks, openLoop, openLoopHoist, tidyPunch, if_true, List.nil_append]
  cases prPunch
  · simp [filter_const_true]
  · by_cases ht : s.defs.filter (fun d => fileSw d && !s.att d) = []
    · simp [ht, filter_const_true]
    · have hd : s.defs ≠ [] := fun h => ht (by rw [h]; rfl)
      simp [ht, hd, filter_const_true, filter_const_false]

theorem openLoopIn_skip (fileSw : Int → Bool) (pre rest : List Int) (s : SoSt) (acc : List Sk)
    (h : ∀ d ∈ pre, (fileSw d && !s.att d) = false) :
    openLoopIn fileSw (pre ++ rest) s acc = openLoopIn fileSw rest s acc := by
  induction pre with
  | nil => rfl
  | cons d pre ih =>
    simp only [List.cons_append, openLoopIn, h d (by simp)]
    exact ih (fun x hx => h x (by simp [hx]))

theorem openLoopIn_none (fileSw : Int → Bool) (ds : List Int) (s : SoSt) (acc : List Sk)
    (h : ∀ d ∈ ds, (fileSw d && !s.att d) = false) : openLoopIn fileSw ds s acc = (s, acc) := by
  rw [← List.append_nil ds, openLoopIn_skip fileSw ds [] s acc h]; rfl

/-- the loop with `tidy_punch` inside it, when exactly one block has to be opened (`d`): one `tidy_punch` pass -/
theorem openLoopIn_one (fileSw : Int → Bool) (pre post : List Int) (d : Int) (s : SoSt) (acc : List Sk)
    (hpre : ∀ x ∈ pre, (fileSw x && !s.att x) = false)
    (hd : (fileSw d && !s.att d) = true)
    (hpost : ∀ x ∈ post, (fileSw x && !s.att x) = false) (hnd : d ∉ post) :
    (openLoopIn fileSw (pre ++ d :: post) s acc).2 =
      acc ++ Sk.opened d ::
        (tidyPunch { s with att := upd s.att d (fun _ => true), newDef := upd s.newDef d (fun _ => true) }).2 ∧
    (openLoopIn fileSw (pre ++ d :: post) s acc).1.newDef = fun _ => false := by
  rw [openLoopIn_skip fileSw pre _ s acc hpre]
  simp only [openLoopIn, hd, if_true]
  rw [openLoopIn_none]
  · simp [tidyPunch]
  · intro x hx
    have hne : x ≠ d := fun h => hnd (h ▸ hx)
    simpa [tidyPunch, upd, hne] using hpost x hx

/-! ### dump stream: the components of one dump step -/

theorem dumpSim_file (f s p : Bool) (d : List Char) (st : DumpSt) :
    (dumpSim f s p d st).file =
      if f && st.info.on && p && st.info.any then putDump st.info.append st.file d else st.file := by
  cases s <;> rfl

theorem dumpSim_str (f s p : Bool) (d : List Char) (st : DumpSt) :
    (dumpSim f s p d st).str =
      if s && p && st.info.any then putDump st.info.append st.str d else st.str := by
  cases s <;> rfl

/-- the DUMP request still pending after the dump step -/
theorem dumpSim_info (f s p : Bool) (d : List Char) (st : DumpSt) :
    (dumpSim f s p d st).info =
      if s then (if p && st.info.any then { st.info with any := false } else st.info)
      else if f && st.info.on && p then { st.info with on := false, any := false } else st.info := by
  cases s <;> rfl

end PhreeqcVerif.Route
