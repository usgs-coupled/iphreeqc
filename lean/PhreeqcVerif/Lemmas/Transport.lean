import Mathlib.Tactic.Ring
import Mathlib.Tactic.Linarith
import Mathlib.Tactic.Positivity
import PhreeqcVerif.Model.Transport
/-! Lemmas for C11 (model: `Model/Transport.lean`; property theorems: `Properties/C11.lean`).

* the factor of a pair of cells does not depend on the `dav` the loop carries (`neighbourMix_fst`); what holds of every
  pair factor and boundary factor holds of every stored factor (`rawMix_forall`); `maxmix` bounds `m[i] + m1[i]`
  (`rawMix_sum_le`) and `nmix > 1.5·maxmix` (`nmixOf_gt`), hence convex weights with self weight > 1/3 (`weightsWith_convex`);
  `rawMix` and `initMix` are read through `rawMix_fst/_snd`, `initMix_nmix/_weights`
* for equal lengths the pair factor is symmetric, so a sub-mix changes the inventory only across the two outer faces
  (`rawMix_sym`, `initMix_sym`, `mixGo_sum`), and without a constant boundary a transport step leaves the inventory as the
  advective copy made it (`transportStep_sum`)
* any relation kept by convex mixing of both sides is kept by a transport step (`Mixes`, `transportStepWith_rel`); values
  in a range and concentrations in a range (`Rel`, a convex cone) are two such relations
* stagnant layer: the exchange fractions in closed form (`stagFactors_eq`), when they conserve (`stagWeights_conserving`)
  and are non-negative (`stagWeights_nonneg`), and what `mixStagStep` then keeps (`mixStagStep_keeps`, `mixStagStep_rel`;
  the range only for `Rel lo hi`) -/
namespace PhreeqcVerif.Transport

/-! ### what one step keeps, every step keeps

Stated for a relation between two runs; an invariant of one run (`*_inv`) is the relation that ignores its second argument. -/

theorem iter_rel {R : Col Rat → Col Rat → Prop} {f : Col Rat → Col Rat} (hf : ∀ n w, R n w → R (f n) (f w)) :
    ∀ (k : Nat) (n w : Col Rat), R n w → R (iter f k n) (iter f k w) := by
  intro k
  induction k with
  | zero => intro n w h; exact h
  | succ k ih => intro n w h; exact ih _ _ (hf n w h)

theorem iter_inv {P : Col Rat → Prop} {f : Col Rat → Col Rat} (hf : ∀ c, P c → P (f c)) (k : Nat) {c : Col Rat}
    (h : P c) : P (iter f k c) :=
  iter_rel (R := fun c _ => P c) (fun c _ h => hf c h) k c c h

theorem runWith_rel {R : Col Rat → Col Rat → Prop} {f : Col Rat → Col Rat} (hf : ∀ n w, R n w → R (f n) (f w)) :
    ∀ (k : Nat) (n w : Col Rat), R n w → List.Forall₂ R (runWith f k n) (runWith f k w) := by
  intro k
  induction k with
  | zero => intro n w _; exact List.Forall₂.nil
  | succ k ih => intro n w h; exact List.Forall₂.cons (hf n w h) (ih _ _ (hf n w h))

theorem runWith_inv {P : Col Rat → Prop} {f : Col Rat → Col Rat} (hf : ∀ c, P c → P (f c)) (k : Nat) {c : Col Rat}
    (h : P c) : ∀ c' ∈ runWith f k c, P c' :=
  (List.forall₂_same (Rₐ := fun c _ => P c)).1 (runWith_rel (fun c _ h => hf c h) k c c h)

theorem iterS_rel {R : SCol Rat → SCol Rat → Prop} {f : SCol Rat → SCol Rat} (hf : ∀ n w, R n w → R (f n) (f w)) :
    ∀ (k : Nat) (n w : SCol Rat), R n w → R (iterS f k n) (iterS f k w) := by
  intro k
  induction k with
  | zero => intro n w h; exact h
  | succ k ih => intro n w h; exact ih _ _ (hf n w h)

theorem iterS_inv {P : SCol Rat → Prop} {f : SCol Rat → SCol Rat} (hf : ∀ c, P c → P (f c)) (k : Nat) {c : SCol Rat}
    (h : P c) : P (iterS f k c) :=
  iterS_rel (R := fun c _ => P c) (fun c _ h => hf c h) k c c h

theorem runWithS_rel {R : SCol Rat → SCol Rat → Prop} {f : SCol Rat → SCol Rat} (hf : ∀ n w, R n w → R (f n) (f w)) :
    ∀ (k : Nat) (n w : SCol Rat), R n w → List.Forall₂ R (runWithS f k n) (runWithS f k w) := by
  intro k
  induction k with
  | zero => intro n w _; exact List.Forall₂.nil
  | succ k ih => intro n w h; exact List.Forall₂.cons (hf n w h) (ih _ _ (hf n w h))

theorem runWithS_inv {P : SCol Rat → Prop} {f : SCol Rat → SCol Rat} (hf : ∀ c, P c → P (f c)) (k : Nat) {c : SCol Rat}
    (h : P c) : ∀ c' ∈ runWithS f k c, P c' :=
  (List.forall₂_same (Rₐ := fun c _ => P c)).1 (runWithS_rel (fun c _ h => hf c h) k c c h)

/-! ### the mixing factors of `init_mix` -/

/-- physically meaningful cell -/
def Cell.Valid (c : Cell) : Prop := 0 < c.len ∧ 0 ≤ c.disp

/-- physically meaningful set-up (what the reader accepts from a sensible input) -/
def Setup.Valid (s : Setup) : Prop := (∀ c ∈ s.cells, c.Valid) ∧ 0 ≤ s.diffc ∧ 0 ≤ s.timest

theorem corrDisp_pos (s : Setup) : 0 < corrDisp s := by
  unfold corrDisp
  positivity

theorem diffcHere_nonneg {s : Setup} (h : s.Valid) : 0 ≤ diffcHere s := by
  obtain ⟨_, h1, h2⟩ := h
  unfold diffcHere; positivity

/-- the harmonic term of a pair in closed form (`x / 0 = 0` takes care of the two tests); the incoming `dav` is not read -/
theorem davUpd_eq (dav : Rat) (c nb : Cell) : davUpd dav c nb = c.len / c.disp + nb.len / nb.disp := by
  unfold davUpd
  by_cases h1 : c.disp = 0 <;> by_cases h2 : nb.disp = 0 <;> simp [h1, h2]

theorem dispPart_nonneg (m : Bool) {dav : Rat} (hd : 0 ≤ dav) : 0 ≤ dispPart m dav := by
  unfold dispPart
  positivity

/-- the factor of `c` with `nb` in closed form: with flow `dav` is reset for the pair, without flow it is not read, so
the value of `dav` that the loop carries when it reaches the pair does not matter -/
theorem neighbourMix_fst (s : Setup) (dav : Rat) (c nb : Cell) :
    (neighbourMix s dav c nb).1 =
      (dispPart s.moving (c.len / c.disp + nb.len / nb.disp) + diffcHere s / (c.len * c.len + c.len * nb.len)) *
        corrDisp s := by
  cases hm : s.moving
  · simp [neighbourMix, dispPart, hm]
  · simp only [neighbourMix, newDav, hm, if_true, davUpd_eq]

theorem neighbourMix_symm (s : Setup) (d1 d2 : Rat) {c nb : Cell} (hl : c.len = nb.len) :
    (neighbourMix s d1 c nb).1 = (neighbourMix s d2 nb c).1 := by
  rw [neighbourMix_fst, neighbourMix_fst, add_comm (c.len / c.disp), hl]

theorem hiBlock_fst (s : Setup) (d1 d2 : Rat) (c : Cell) (rest : List Cell) :
    (hiBlock s d1 c rest).1 = (hiBlock s d2 c rest).1 := by
  cases rest with
  | nil => rfl
  | cons nx _ => exact (neighbourMix_fst s d1 c nx).trans (neighbourMix_fst s d2 c nx).symm

theorem neighbourMix_nonneg {s : Setup} (hs : s.Valid) (dav : Rat) {c nb : Cell} (hc : c.Valid) (hn : nb.Valid) :
    0 ≤ (neighbourMix s dav c nb).1 := by
  rw [neighbourMix_fst]
  have hD := diffcHere_nonneg hs
  obtain ⟨hc1, hc2⟩ := hc
  obtain ⟨hn1, hn2⟩ := hn
  have h1 := dispPart_nonneg s.moving (add_nonneg (div_nonneg hc1.le hc2) (div_nonneg hn1.le hn2))
  have h2 : 0 ≤ diffcHere s / (c.len * c.len + c.len * nb.len) := by positivity
  exact mul_nonneg (add_nonneg h1 h2) (corrDisp_pos s).le

theorem boundaryMix_nonneg {s : Setup} (hs : s.Valid) {c : Cell} (hc : c.Valid) : 0 ≤ boundaryMix s c := by
  have hD := diffcHere_nonneg hs
  obtain ⟨h1, h2⟩ := hc
  unfold boundaryMix
  positivity

theorem cellLoop_length (s : Setup) : ∀ (cells : List Cell) (prev : Option Cell) (dav : Rat),
    (cellLoop s prev cells dav).length = cells.length := by
  intro cells
  induction cells with
  | nil => intro prev dav; rfl
  | cons c rest ih => intro prev dav; exact congrArg (· + 1) (ih _ _)

theorem cellLoop_forall (s : Setup) {P : Rat → Prop} {Q : Cell → Prop} (h0 : P 0)
    (hP : ∀ dav c nb, Q c → Q nb → P (neighbourMix s dav c nb).1) :
    ∀ (cells : List Cell) (prev : Option Cell) (dav : Rat), (∀ c ∈ cells, Q c) → (∀ p ∈ prev, Q p) →
    ∀ p ∈ cellLoop s prev cells dav, P p.1 ∧ P p.2 := by
  intro cells
  induction cells with
  | nil => intro prev dav _ _ p hp; cases hp
  | cons c rest ih =>
    intro prev dav hcs hprev p hp
    have hc : Q c := hcs c List.mem_cons_self
    rcases List.mem_cons.1 hp with rfl | hp
    · constructor
      · cases prev with
        | none => exact h0
        | some pv => exact hP _ c pv hc (hprev pv rfl)
      · cases rest with
        | nil => exact h0
        | cons nx _ => exact hP _ c nx hc (hcs nx (by simp))
    · exact ih (some c) _ (fun c' h => hcs c' (List.mem_cons_of_mem _ h)) (fun p' h => by cases h; exact hc) p hp

/-! #### the running maximum `maxmix` -/

theorem le_updMax_left (mx v : Rat) : mx ≤ updMax mx v := by
  unfold updMax
  split
  · exact le_of_lt ‹_›
  · exact le_refl _

theorem le_updMax_right (mx v : Rat) : v ≤ updMax mx v := by
  unfold updMax
  split
  · exact le_refl _
  · exact not_lt.1 ‹_›

theorem updMax_rec (P : Rat → Prop) {mx v : Rat} (hm : P mx) (hv : P v) : P (updMax mx v) := by
  unfold updMax
  split <;> assumption

theorem le_loopMax : ∀ (ps : List (Rat × Rat)), ∀ p ∈ ps, pairSum p ≤ loopMax ps := by
  intro ps
  induction ps using List.reverseRecOn with
  | nil => intro p hp; cases hp
  | append_singleton ps q ih =>
    intro p hp
    rw [loopMax, List.foldl_append]
    rcases List.mem_append.1 hp with h | h
    · exact le_trans (ih p h) (le_updMax_left _ _)
    · rw [List.mem_singleton.1 h]
      exact le_updMax_right _ _

theorem loopMax_rec (P : Rat → Prop) {ps : List (Rat × Rat)} (h0 : P 0) (h : ∀ p ∈ ps, P (pairSum p)) :
    P (loopMax ps) :=
  List.foldlRecOn ps _ h0 fun _ hb p hp => updMax_rec P hb (h p hp)

theorem init_le_firstMax (s : Setup) (ps : List (Rat × Rat)) (mx : Rat) : mx ≤ firstMax s ps mx := by
  unfold firstMax
  split
  · split
    · exact le_updMax_left _ _
    · exact le_refl _
  · exact le_refl _

theorem head_le_firstMax {s : Setup} {ps : List (Rat × Rat)} {p : Rat × Rat} (hb : s.bconFirst = 1) (hp : ps.head? = some p)
    (mx : Rat) : pairSum p ≤ firstMax s ps mx := by
  rw [firstMax, if_pos hb, hp]
  exact le_updMax_right _ _

theorem firstMax_rec (P : Rat → Prop) {s : Setup} {ps : List (Rat × Rat)} {mx : Rat} (hm : P mx)
    (h : ∀ p ∈ ps, P (pairSum p)) : P (firstMax s ps mx) := by
  unfold firstMax
  split
  · split
    · exact updMax_rec P hm (h _ (List.mem_of_mem_head? ‹_›))
    · exact hm
  · exact hm

theorem init_le_lastMax (s : Setup) (ps : List (Rat × Rat)) (mx : Rat) : mx ≤ lastMax s ps mx := by
  unfold lastMax
  split
  · split
    · exact le_updMax_left _ _
    · exact le_refl _
  · exact le_refl _

theorem last_le_lastMax {s : Setup} {ps : List (Rat × Rat)} {p : Rat × Rat} (hb : s.bconLast = 1) (hp : ps.getLast? = some p)
    (mx : Rat) : pairSum p ≤ lastMax s ps mx := by
  rw [lastMax, if_pos hb, hp]
  exact le_updMax_right _ _

theorem lastMax_rec (P : Rat → Prop) {s : Setup} {ps : List (Rat × Rat)} {mx : Rat} (hm : P mx)
    (h : ∀ p ∈ ps, P (pairSum p)) : P (lastMax s ps mx) := by
  unfold lastMax
  split
  · split
    · exact updMax_rec P hm (h _ (List.mem_of_getLast? ‹_›))
    · exact hm
  · exact hm

/-! #### the boundary cells -/

theorem mem_modHead {β : Type} (f : β → β) {l : List β} {p : β} (hp : p ∈ modHead f l) :
    p ∈ l ∨ ((modHead f l).head? = some p ∧ ∃ q ∈ l, p = f q) := by
  cases l with
  | nil => cases hp
  | cons x xs =>
    rcases List.mem_cons.1 hp with rfl | hp
    · exact Or.inr ⟨rfl, x, List.mem_cons_self, rfl⟩
    · exact Or.inl (List.mem_cons_of_mem _ hp)

theorem mem_modLast {β : Type} (g : β → β) : ∀ {l : List β} {p : β}, p ∈ modLast g l →
    p ∈ l ∨ ((modLast g l).getLast? = some p ∧ ∃ q ∈ l, p = g q) := by
  intro l
  induction l with
  | nil => intro p hp; cases hp
  | cons x xs ih =>
    intro p hp
    cases xs with
    | nil =>
      obtain rfl := List.mem_singleton.1 hp
      exact Or.inr ⟨rfl, x, List.mem_cons_self, rfl⟩
    | cons y ys =>
      rcases List.mem_cons.1 hp with rfl | hp
      · exact Or.inl List.mem_cons_self
      · rcases ih hp with h | ⟨h, q, hq, rfl⟩
        · exact Or.inl (List.mem_cons_of_mem _ h)
        · refine Or.inr ⟨?_, q, List.mem_cons_of_mem _ hq, rfl⟩
          cases ys <;> exact h

theorem modLast_length {β : Type} (g : β → β) : ∀ (l : List β), (modLast g l).length = l.length := by
  intro l
  induction l with
  | nil => rfl
  | cons x xs ih =>
    cases xs with
    | nil => rfl
    | cons y ys => exact congrArg (· + 1) ih

theorem firstFix_length (s : Setup) (ps : List (Rat × Rat)) : (firstFix s ps).length = ps.length := by
  unfold firstFix
  split
  · split
    · cases ps <;> rfl
    · rfl
  · rfl

theorem lastFix_length (s : Setup) (ps : List (Rat × Rat)) : (lastFix s ps).length = ps.length := by
  unfold lastFix
  split
  · split
    · exact modLast_length _ _
    · rfl
  · rfl

theorem mem_firstFix {s : Setup} {ps : List (Rat × Rat)} {p : Rat × Rat} (hp : p ∈ firstFix s ps) :
    p ∈ ps ∨ (s.bconFirst = 1 ∧ (firstFix s ps).head? = some p ∧
      ∃ c ∈ s.cells, ∃ q ∈ ps, p = (boundaryMix s c, q.2)) := by
  by_cases hb : s.bconFirst = 1
  · cases hh : s.cells.head? with
    | none => exact Or.inl (by rwa [firstFix, if_pos hb, hh] at hp)
    | some c =>
      have e : firstFix s ps = modHead (fun p => (boundaryMix s c, p.2)) ps := by rw [firstFix, if_pos hb, hh]
      rw [e] at hp ⊢
      exact (mem_modHead _ hp).imp_right fun ⟨h, q, hq, hpq⟩ => ⟨hb, h, c, List.mem_of_mem_head? hh, q, hq, hpq⟩
  · exact Or.inl (by rwa [firstFix, if_neg hb] at hp)

theorem mem_lastFix {s : Setup} {ps : List (Rat × Rat)} {p : Rat × Rat} (hp : p ∈ lastFix s ps) :
    p ∈ ps ∨ (s.bconLast = 1 ∧ (lastFix s ps).getLast? = some p ∧
      ∃ c ∈ s.cells, ∃ q ∈ ps, p = (q.1, boundaryMix s c)) := by
  by_cases hb : s.bconLast = 1
  · cases hh : s.cells.getLast? with
    | none => exact Or.inl (by rwa [lastFix, if_pos hb, hh] at hp)
    | some c =>
      have e : lastFix s ps = modLast (fun p => (p.1, boundaryMix s c)) ps := by rw [lastFix, if_pos hb, hh]
      rw [e] at hp ⊢
      exact (mem_modLast _ hp).imp_right fun ⟨h, q, hq, hpq⟩ => ⟨hb, h, c, List.mem_of_getLast? hh, q, hq, hpq⟩
  · exact Or.inl (by rwa [lastFix, if_neg hb] at hp)

theorem firstFix_forall {s : Setup} {P : Rat → Prop} {ps : List (Rat × Rat)} (hl : ∀ p ∈ ps, P p.1 ∧ P p.2)
    (hb : ∀ c ∈ s.cells, P (boundaryMix s c)) : ∀ p ∈ firstFix s ps, P p.1 ∧ P p.2 := by
  intro p hp
  rcases mem_firstFix hp with h | ⟨_, _, c, hc, q, hq, rfl⟩
  · exact hl p h
  · exact ⟨hb c hc, (hl q hq).2⟩

theorem lastFix_forall {s : Setup} {P : Rat → Prop} {ps : List (Rat × Rat)} (hl : ∀ p ∈ ps, P p.1 ∧ P p.2)
    (hb : ∀ c ∈ s.cells, P (boundaryMix s c)) : ∀ p ∈ lastFix s ps, P p.1 ∧ P p.2 := by
  intro p hp
  rcases mem_lastFix hp with h | ⟨_, _, c, hc, q, hq, rfl⟩
  · exact hl p h
  · exact ⟨(hl q hq).1, hb c hc⟩

/-! #### all factors and `maxmix` -/

theorem rawMix_fst (s : Setup) : (rawMix s).1 = lastFix s (firstFix s (cellLoop s none s.cells 0)) := rfl

theorem rawMix_snd (s : Setup) :
    (rawMix s).2 =
      lastMax s (rawMix s).1 (firstMax s (firstFix s (cellLoop s none s.cells 0)) (loopMax (cellLoop s none s.cells 0))) := rfl

theorem rawMix_length (s : Setup) : (rawMix s).1.length = s.cells.length := by
  rw [rawMix_fst, lastFix_length, firstFix_length, cellLoop_length]

theorem rawMix_forall (s : Setup) {P : Rat → Prop} {Q : Cell → Prop} (hQ : ∀ c ∈ s.cells, Q c) (h0 : P 0)
    (hP : ∀ dav c nb, Q c → Q nb → P (neighbourMix s dav c nb).1) (hb : ∀ c, Q c → P (boundaryMix s c)) :
    ∀ p ∈ (rawMix s).1, P p.1 ∧ P p.2 := by
  rw [rawMix_fst]
  exact lastFix_forall (firstFix_forall (cellLoop_forall s h0 hP s.cells none 0 hQ (by simp)) fun c hc => hb c (hQ c hc))
    fun c hc => hb c (hQ c hc)

/-- `maxmix` is at least `m[i] + m1[i]` of every cell: an untouched pair was seen by the loop, a touched one by the
boundary statement that touched it last -/
theorem rawMix_sum_le (s : Setup) : ∀ p ∈ (rawMix s).1, pairSum p ≤ (rawMix s).2 := by
  intro p hp
  rw [rawMix_snd]
  rw [rawMix_fst] at hp ⊢
  rcases mem_lastFix hp with h | ⟨hb, hl, _⟩
  · refine le_trans ?_ (init_le_lastMax _ _ _)
    rcases mem_firstFix h with h | ⟨hb, hh, _⟩
    · exact le_trans (le_loopMax _ p h) (init_le_firstMax _ _ _)
    · exact head_le_firstMax hb hh _
  · exact last_le_lastMax hb hl _

theorem rawMix_zero (s : Setup) (hd : ∀ c ∈ s.cells, c.disp = 0) (h0 : diffcHere s = 0) : (rawMix s).2 = 0 := by
  have hz := cellLoop_forall s (P := (· = 0)) (Q := fun c => c.disp = 0) rfl
    (fun dav c nb hc hn => by rw [neighbourMix_fst]; simp [hc, hn, dispPart, h0]) s.cells none 0 hd (by simp)
  have hb : ∀ c ∈ s.cells, boundaryMix s c = 0 := fun c hc => by simp [boundaryMix, h0, hd c hc]
  have h1 := firstFix_forall (P := (· = 0)) hz hb
  have h2 := lastFix_forall (P := (· = 0)) h1 hb
  have z : ∀ {ps : List (Rat × Rat)}, (∀ p ∈ ps, p.1 = 0 ∧ p.2 = 0) → ∀ p ∈ ps, pairSum p = 0 :=
    fun h p hp => by rw [pairSum, (h p hp).1, (h p hp).2, add_zero]
  rw [rawMix_snd, rawMix_fst]
  exact lastMax_rec (· = 0) (firstMax_rec (· = 0) (loopMax_rec (· = 0) rfl (z hz)) (z h1)) (z h2)

/-! #### the number of sub-mixes and the weights -/

theorem lt_one_add_floor_toNat (x : Rat) : x < ((1 + x.floor.toNat : Nat) : Rat) := by
  have h : x.floor + 1 ≤ ((1 + x.floor.toNat : Nat) : Int) := by
    have := Int.self_le_toNat x.floor
    omega
  exact lt_of_lt_of_le (Rat.lt_floor_add_one x) (by exact_mod_cast h)

theorem nmixOf_gt (s : Setup) {mx : Rat} (h : mx ≠ 0) : (3 / 2 : Rat) * mx < (nmixOf s mx : Rat) := by
  have hk := lt_one_add_floor_toNat ((3 / 2 : Rat) * mx)
  rw [nmixOf, if_neg h]
  simp only
  split
  · split
    · exact hk.trans (by exact_mod_cast ‹_ < 2›)
    · exact hk
  · exact hk

theorem mem_weightsWith {ps : List (Rat × Rat)} {k : Nat} {w : W Rat} (hw : w ∈ weightsWith ps k) :
    ∃ p ∈ ps, w = { l := p.1 / (k : Rat), s := 1 - p.1 / (k : Rat) - p.2 / (k : Rat), r := p.2 / (k : Rat) } := by
  rw [weightsWith] at hw
  split at hw
  · cases hw
  · obtain ⟨p, hp, rfl⟩ := List.mem_map.1 hw
    exact ⟨p, hp, rfl⟩

theorem weightsWith_length (ps : List (Rat × Rat)) {k : Nat} (hk : k ≠ 0) : (weightsWith ps k).length = ps.length := by
  rw [weightsWith, if_neg hk, List.length_map]

theorem initMix_nmix (s : Setup) : (initMix s).nmix = nmixOf s (rawMix s).2 := rfl

theorem initMix_weights (s : Setup) : (initMix s).weights = weightsWith (rawMix s).1 (initMix s).nmix := rfl

theorem nmixOf_zero (s : Setup) : nmixOf s 0 = 0 := if_pos rfl

/-- nothing to mix: `init_mix` leaves the map empty -/
theorem initMix_weights_nil {s : Setup} (h : (initMix s).nmix = 0) : (initMix s).weights = [] := by
  rw [initMix_weights, h, weightsWith, if_pos rfl]

theorem weights_length (s : Setup) (h : (initMix s).nmix ≠ 0) : (initMix s).weights.length = s.n := by
  rw [initMix_weights, weightsWith_length _ h, rawMix_length, Setup.n]

def W.Convex (w : W Rat) : Prop := 0 ≤ w.l ∧ 0 ≤ w.s ∧ 0 ≤ w.r ∧ w.l + w.s + w.r = 1

theorem convex_of_small {u v : Rat} (hu : 0 ≤ u) (hv : 0 ≤ v) (h : u + v < 2 / 3) :
    (W.mk u (1 - u - v) v).Convex ∧ 1 / 3 < 1 - u - v ∧ u ≤ 1 ∧ v ≤ 1 ∧ 1 - u - v ≤ 1 :=
  ⟨⟨hu, by linarith, hv, by ring⟩, by linarith, by linarith, by linarith, by linarith⟩

theorem weightsWith_convex {ps : List (Rat × Rat)} {mx : Rat} (h0 : ∀ p ∈ ps, 0 ≤ p.1 ∧ 0 ≤ p.2)
    (hs : ∀ p ∈ ps, pairSum p ≤ mx) {k : Nat} (hk : (3 / 2 : Rat) * mx < (k : Rat)) :
    ∀ w ∈ weightsWith ps k, w.Convex ∧ 1 / 3 < w.s ∧ w.l ≤ 1 ∧ w.r ≤ 1 ∧ w.s ≤ 1 := by
  intro w hw
  obtain ⟨p, hp, rfl⟩ := mem_weightsWith hw
  obtain ⟨h1, h2⟩ := h0 p hp
  have h3 : p.1 + p.2 ≤ mx := hs p hp
  have hkq : (0 : Rat) < (k : Rat) := by linarith
  refine convex_of_small (div_nonneg h1 hkq.le) (div_nonneg h2 hkq.le) ?_
  rw [← add_div, div_lt_iff₀ hkq]
  linarith

/-! #### equal lengths: symmetric faces -/

/-- chain property of the factor pairs: `m[1] = a`, `m1[i] = m[i+1]`, `m1[n] = b` -/
def SymPE (b : Rat) : Rat → List (Rat × Rat) → Prop
  | a, [] => a = b
  | a, p :: ps => p.1 = a ∧ SymPE b p.2 ps

/-- equal lengths: what a cell takes from the next one the next one takes from it; `prev` takes
`(hiBlock s 0 prev cells).1` from the head of `cells` -/
theorem cellLoop_sym (s : Setup) {L : Rat} : ∀ (cells : List Cell) (prev : Option Cell) (dav : Rat),
    (∀ x ∈ cells, x.len = L) → (∀ p ∈ prev, p.len = L) →
    SymPE 0 (prev.elim 0 fun p => (hiBlock s 0 p cells).1) (cellLoop s prev cells dav) := by
  intro cells
  induction cells with
  | nil => intro prev dav _ _; cases prev <;> rfl
  | cons c rest ih =>
    intro prev dav hr hp
    have hc : c.len = L := hr c List.mem_cons_self
    refine ⟨?_, ?_⟩
    · cases prev with
      | none => rfl
      | some pv => exact neighbourMix_symm s _ 0 (by rw [hc, hp pv rfl])
    · rw [hiBlock_fst s dav 0]
      exact ih (some c) _ (fun x h => hr x (List.mem_cons_of_mem _ h)) (fun p h => by cases h; exact hc)

/-- factor of the first cell with solution 0 before division by `nmix` (0 unless the boundary is constant) -/
def aEnd (s : Setup) : Rat := if s.bconFirst = 1 then (match s.cells.head? with | some c => boundaryMix s c | none => 0) else 0
/-- factor of the last cell with solution n+1 -/
def bEnd (s : Setup) : Rat := if s.bconLast = 1 then (match s.cells.getLast? with | some c => boundaryMix s c | none => 0) else 0

theorem firstFix_sym {s : Setup} {b : Rat} {ps : List (Rat × Rat)} (h : SymPE b 0 ps) (hl : ps.length = s.cells.length) :
    SymPE b (aEnd s) (firstFix s ps) := by
  unfold firstFix aEnd
  split
  · match hc : s.cells, ps, hl, h with
    | [], [], _, h => exact h
    | c :: _, p :: ps, _, h => exact ⟨rfl, h.2⟩
  · exact h

theorem symPE_modLast (b : Rat) : ∀ (l : List (Rat × Rat)) (a : Rat), SymPE 0 a l → l ≠ [] →
    SymPE b a (modLast (fun p => (p.1, b)) l) := by
  intro l
  induction l with
  | nil => intro a _ h; exact absurd rfl h
  | cons p ps ih =>
    intro a h _
    cases ps with
    | nil => exact ⟨h.1, rfl⟩
    | cons q qs => exact ⟨h.1, ih _ h.2 (List.cons_ne_nil _ _)⟩

theorem lastFix_sym {s : Setup} {a : Rat} {ps : List (Rat × Rat)} (h : SymPE 0 a ps) (hl : ps.length = s.cells.length) :
    SymPE (bEnd s) a (lastFix s ps) := by
  unfold lastFix bEnd
  split
  · match hc : s.cells, ps, hl, h with
    | [], [], _, h => exact h
    | c :: _, p :: ps, _, h => exact symPE_modLast _ _ a h (List.cons_ne_nil _ _)
  · exact h

theorem rawMix_sym (s : Setup) {L : Rat} (hL : ∀ c ∈ s.cells, c.len = L) : SymPE (bEnd s) (aEnd s) (rawMix s).1 :=
  rawMix_fst s ▸ lastFix_sym (firstFix_sym (cellLoop_sym s s.cells none 0 hL (by simp)) (cellLoop_length ..))
    ((firstFix_length ..).trans (cellLoop_length ..))

/-- interior faces symmetric (`m1[i] = m[i+1]`), first cell takes `a` from the solution below, last cell `b` from the
solution above, every triple sums to one -/
def SymEnds (b : Rat) : Rat → List (W Rat) → Prop
  | a, [] => a = b
  | a, w :: ws => w.l = a ∧ w.l + w.s + w.r = 1 ∧ SymEnds b w.r ws

theorem weightsWith_sym (k : Nat) (b : Rat) : ∀ (ps : List (Rat × Rat)) (a : Rat), SymPE b a ps →
    SymEnds (b / (k : Rat)) (a / (k : Rat)) (weightsWith ps k) := by
  by_cases hk : k = 0
  · intro ps a _
    rw [weightsWith, if_pos hk, hk, SymEnds, Nat.cast_zero, div_zero, div_zero]
  · intro ps
    induction ps with
    | nil => intro a h; rw [weightsWith, if_neg hk, List.map_nil, SymEnds, show a = b from h]
    | cons p ps ih =>
      intro a h
      have := ih p.2 h.2
      rw [weightsWith, if_neg hk] at this ⊢
      exact ⟨congrArg (· / (k : Rat)) h.1, by ring, this⟩

/-- equal cell lengths — any flow direction, dispersivities (zero ones included), boundary conditions —: the stored
weights are symmetric across every interior face (`m1[i] = m[i+1]`); the outer faces carry the boundary factors -/
theorem initMix_sym (s : Setup) {L : Rat} (hL : ∀ c ∈ s.cells, c.len = L) :
    SymEnds (bEnd s / ((initMix s).nmix : Rat)) (aEnd s / ((initMix s).nmix : Rat)) (initMix s).weights :=
  initMix_weights s ▸ weightsWith_sym _ _ _ _ (rawMix_sym s hL)

theorem initMix_closed (s : Setup) (h1 : s.bconFirst ≠ 1) (h2 : s.bconLast ≠ 1) {L : Rat} (hL : ∀ c ∈ s.cells, c.len = L) :
    SymEnds 0 0 (initMix s).weights ∧ ((initMix s).weights = [] ∨ (initMix s).weights.length = s.n) := by
  have hs := initMix_sym s hL
  rw [aEnd, bEnd, if_neg h1, if_neg h2, zero_div] at hs
  exact ⟨hs, (em ((initMix s).nmix = 0)).imp initMix_weights_nil (weights_length s)⟩

/-! ### what a sub-mix and the advective copy do to the inventory -/

theorem mixGo_length (last : Rat) : ∀ (xs : List Rat) (prev : Rat) (ws : List (W Rat)),
    (mixGo last prev xs ws).length = xs.length := by
  intro xs
  induction xs with
  | nil => intro prev ws; rfl
  | cons x rest ih =>
    intro prev ws
    cases ws with
    | nil => rfl
    | cons w ws => exact congrArg (· + 1) (ih _ _)

/-- across every interior face the two cells exchange equal amounts, so the sum telescopes to the two outer faces -/
theorem mixGo_sum (last b : Rat) : ∀ (xs : List Rat) (ws : List (W Rat)) (prev a : Rat),
    xs.length = ws.length → SymEnds b a ws →
    (mixGo last prev xs ws).sum = xs.sum + a * (prev - xs.headD last) + b * (last - xs.getLastD prev) := by
  intro xs
  induction xs with
  | nil =>
    intro ws prev a hl hs
    cases ws with
    | nil => rw [show a = b from hs]; simp only [mixGo, List.sum_nil, List.headD_nil, List.getLastD_nil]; ring
    | cons w ws => cases hl
  | cons x rest ih =>
    intro ws prev a hl hs
    cases ws with
    | nil => cases hl
    | cons w ws =>
      obtain ⟨rfl, h2, h3⟩ := hs
      have hs' : w.s = 1 - w.r - w.l := eq_sub_of_add_eq' (eq_sub_of_add_eq h2)
      simp only [mixGo, List.sum_cons, List.headD_cons, List.getLastD_cons, ih ws x w.r (Nat.succ.inj hl) h3, hs']
      ring

theorem mixStep_sum_ends {ws : List (W Rat)} {a b : Rat} (hs : SymEnds b a ws) {c : Col Rat}
    (hl : c.cells.length = ws.length) :
    (mixStep ws c).sum =
      c.sum + a * (c.first - c.cells.headD c.last) + b * (c.last - c.cells.getLastD c.first) :=
  mixGo_sum c.last b c.cells ws c.first a hl hs

theorem mixStep_nil (c : Col Rat) : mixStep [] c = c := by
  obtain ⟨f, cs, l⟩ := c
  cases cs <;> rfl

/-- `ws = []` is what `init_mix` leaves when there is nothing to mix -/
theorem mixStep_keeps {ws : List (W Rat)} {n : Nat} (hs : SymEnds 0 0 ws) (hl : ws = [] ∨ ws.length = n) {x : Rat}
    {c : Col Rat} (h : c.sum = x ∧ c.cells.length = n) :
    (mixStep ws c).sum = x ∧ (mixStep ws c).cells.length = n := by
  rcases hl with rfl | hl
  · rwa [mixStep_nil]
  · refine ⟨?_, (mixGo_length ..).trans h.2⟩
    rw [mixStep_sum_ends hs (h.2.trans hl.symm), zero_mul, zero_mul, add_zero, add_zero, h.1]

theorem iter_mixStep_keeps {ws : List (W Rat)} {n : Nat} (hs : SymEnds 0 0 ws) (hl : ws = [] ∨ ws.length = n) (k : Nat)
    {x : Rat} {c : Col Rat} (h : c.sum = x ∧ c.cells.length = n) :
    (iter (mixStep ws) k c).sum = x ∧ (iter (mixStep ws) k c).cells.length = n :=
  iter_inv (P := fun c => c.sum = x ∧ c.cells.length = n) (fun _ => mixStep_keeps hs hl) k h

theorem shift_cells_length (f : Flow) (c : Col Rat) : (shift f c).cells.length = c.cells.length := by
  cases f with
  | forward => simp [shift, shiftF]
  | back => simp only [shift, shiftB]; cases c.cells <;> simp
  | none => rfl

theorem shiftF_sum (c : Col Rat) :
    (shiftF c).sum + (c.first :: c.cells).getLast (List.cons_ne_nil _ _) = c.sum + c.first := by
  have := congrArg List.sum (List.dropLast_append_getLast (List.cons_ne_nil c.first c.cells))
  rw [List.sum_append, List.sum_singleton, List.sum_cons] at this
  rw [Col.sum, Col.sum, shiftF, this, add_comm]

theorem shiftB_sum (c : Col Rat) (hpos : c.cells ≠ []) : (shiftB c).sum + c.cells.head hpos = c.sum + c.last := by
  obtain ⟨f, cs, l⟩ := c
  cases cs with
  | nil => exact absurd rfl hpos
  | cons x t => simp [Col.sum, shiftB]; ring

/-- no constant-concentration boundary, equal cell lengths, any flow: the sub-mixes of a transport step leave the
inventory as the advective copy made it (with flow all of them come after the copy) -/
theorem transportStep_sum (s : Setup) (h1 : s.bconFirst ≠ 1) (h2 : s.bconLast ≠ 1)
    {L : Rat} (hL : ∀ c ∈ s.cells, c.len = L) {c : Col Rat} (hn : c.cells.length = s.n) :
    (transportStep s c).sum = (shift s.flow c).sum ∧ (transportStep s c).cells.length = s.n := by
  obtain ⟨hs, hl⟩ := initMix_closed s h1 h2 hL
  simp only [transportStep, transportStepWith]
  by_cases hm : s.moving = true
  · have hp : preMixes s (initMix s).nmix = 0 := by simp [preMixes, bC, hm, h1, h2]
    rw [hp]
    exact iter_mixStep_keeps hs hl _ ⟨rfl, (shift_cells_length _ c).trans hn⟩
  · have hf : s.flow = Flow.none := by simpa [Setup.moving] using hm
    simp only [hf, shift]
    exact iter_mixStep_keeps hs hl _ (iter_mixStep_keeps hs hl _ ⟨rfl, hn⟩)

/-! ### ranges: a relation kept by mixing both sides with the same weights -/

/-- a value lies in `[lo, hi]` -/
def In (lo hi x : Rat) : Prop := lo ≤ x ∧ x ≤ hi

/-- the boundary solutions and all cells of a column lie in `[lo, hi]` -/
def Col.Within (lo hi : Rat) (c : Col Rat) : Prop :=
  In lo hi c.first ∧ (∀ x ∈ c.cells, In lo hi x) ∧ In lo hi c.last

/-- amount `n` in water mass `w` has a concentration within `[lo, hi]` (stated without division) -/
def Rel (lo hi : Rat) (n w : Rat) : Prop := lo * w ≤ n ∧ n ≤ hi * w

/-- `Rel lo hi` is a convex cone in the pair (amount, water mass) -/
theorem Rel.add {lo hi x y wx wy : Rat} (hx : Rel lo hi x wx) (hy : Rel lo hi y wy) : Rel lo hi (x + y) (wx + wy) := by
  constructor <;> rw [mul_add]
  · exact add_le_add hx.1 hy.1
  · exact add_le_add hx.2 hy.2

theorem Rel.smul {lo hi a x wx : Rat} (ha : 0 ≤ a) (hx : Rel lo hi x wx) : Rel lo hi (a * x) (a * wx) := by
  constructor <;> rw [mul_left_comm]
  · exact mul_le_mul_of_nonneg_left hx.1 ha
  · exact mul_le_mul_of_nonneg_left hx.2 ha

theorem in_iff_rel {lo hi x : Rat} : In lo hi x ↔ Rel lo hi x 1 := by
  simp only [In, Rel, mul_one]

/-- `R` is kept when both sides are mixed with the same convex weights -/
def Mixes (R : Rat → Rat → Prop) : Prop :=
  ∀ ⦃w : W Rat⦄, w.Convex → ∀ ⦃x x' y y' z z' : Rat⦄, R x x' → R y y' → R z z' →
    R (w.l * x + w.s * y + w.r * z) (w.l * x' + w.s * y' + w.r * z')

theorem Rel.mixes (lo hi : Rat) : Mixes (Rel lo hi) :=
  fun _ hw _ _ _ _ _ _ hx hy hz => ((hx.smul hw.1).add (hy.smul hw.2.1)).add (hz.smul hw.2.2.1)

/-- unit water mixed with weights that sum to one is unit water -/
theorem In.mixes (lo hi : Rat) : Mixes fun x _ => In lo hi x := by
  intro w hw x _ y _ z _ hx hy hz
  have := Rel.mixes lo hi hw (in_iff_rel.1 hx) (in_iff_rel.1 hy) (in_iff_rel.1 hz)
  rwa [mul_one, mul_one, mul_one, hw.2.2.2, ← in_iff_rel] at this

/-- `R` holds between the boundary solutions and cell by cell -/
def Col.Rel₂ (R : Rat → Rat → Prop) (n w : Col Rat) : Prop :=
  R n.first w.first ∧ List.Forall₂ R n.cells w.cells ∧ R n.last w.last

/-- two columns (amount of a solute, water mass) whose cell-wise ratio lies in `[lo, hi]`: `Col.Rel₂ (Rel lo hi)`,
written out -/
def Col.RelW (lo hi : Rat) (n w : Col Rat) : Prop :=
  Rel lo hi n.first w.first ∧ List.Forall₂ (Rel lo hi) n.cells w.cells ∧ Rel lo hi n.last w.last

theorem Col.within_iff {lo hi : Rat} {c : Col Rat} : c.Within lo hi ↔ Col.Rel₂ (fun x _ => In lo hi x) c c := by
  simp only [Col.Within, Col.Rel₂, List.forall₂_same]

theorem mixGo_rel {R : Rat → Rat → Prop} (hR : Mixes R) {last lastW : Rat} (hl : R last lastW) :
    ∀ (xs ys : List Rat) (prev pv : Rat) (ws : List (W Rat)), (∀ w ∈ ws, w.Convex) → R prev pv →
      List.Forall₂ R xs ys → List.Forall₂ R (mixGo last prev xs ws) (mixGo lastW pv ys ws) := by
  intro xs ys prev pv ws hw hp h
  induction h generalizing prev pv ws with
  | nil => exact List.Forall₂.nil
  | @cons x y xs' ys' hxy hrest ih =>
    cases ws with
    | nil => exact List.Forall₂.cons hxy hrest
    | cons w ws =>
      refine List.Forall₂.cons ?_ (ih x y ws (fun w' hw' => hw w' (List.mem_cons_of_mem _ hw')) hxy)
      have hn : R (xs'.headD last) (ys'.headD lastW) := by
        cases hrest with
        | nil => exact hl
        | cons h _ => exact h
      exact hR (hw w List.mem_cons_self) hp hxy hn

theorem mixStep_rel {R : Rat → Rat → Prop} (hR : Mixes R) {ws : List (W Rat)} (hw : ∀ w ∈ ws, w.Convex) {n w : Col Rat}
    (h : Col.Rel₂ R n w) : Col.Rel₂ R (mixStep ws n) (mixStep ws w) :=
  ⟨h.1, mixGo_rel hR h.2.2 _ _ _ _ ws hw h.1 h.2.1, h.2.2⟩

/-- the advective copy only moves values about -/
theorem shift_rel {R : Rat → Rat → Prop} (f : Flow) {n w : Col Rat} (h : Col.Rel₂ R n w) :
    Col.Rel₂ R (shift f n) (shift f w) := by
  obtain ⟨nf, nc, nl⟩ := n
  obtain ⟨wf, wc, wl⟩ := w
  obtain ⟨h1, h2, h3⟩ := h
  simp only at h1 h2 h3
  cases f with
  | forward =>
    have h := List.Forall₂.cons h1 h2
    refine ⟨h1, ?_, h3⟩
    show List.Forall₂ R (nf :: nc).dropLast (wf :: wc).dropLast
    rw [List.dropLast_eq_take, List.dropLast_eq_take, h.length_eq]
    exact List.forall₂_take _ h
  | back =>
    refine ⟨h1, ?_, h3⟩
    cases h2 with
    | nil => exact List.Forall₂.nil
    | cons _ hr => exact List.rel_append hr (List.Forall₂.cons h3 List.Forall₂.nil)
  | none => exact ⟨h1, h2, h3⟩

theorem transportStepWith_rel {R : Rat → Rat → Prop} (hR : Mixes R) {ws : List (W Rat)} (hw : ∀ w ∈ ws, w.Convex)
    (nmix pre : Nat) (f : Flow) {n w : Col Rat} (h : Col.Rel₂ R n w) :
    Col.Rel₂ R (transportStepWith ws nmix pre f n) (transportStepWith ws nmix pre f w) :=
  iter_rel (fun _ _ h => mixStep_rel hR hw h) _ _ _ (shift_rel f (iter_rel (fun _ _ h => mixStep_rel hR hw h) _ _ _ h))

/-! ### stagnant layer -/

/-- what the mobile cell gives up the immobile cell receives, and vice versa -/
def StagW.Conserving (w : StagW Rat) : Prop := w.mSelf + w.imFromM = 1 ∧ w.imSelf + w.mFromIm = 1

def StagW.Nonneg (w : StagW Rat) : Prop := 0 ≤ w.mSelf ∧ 0 ≤ w.mFromIm ∧ 0 ≤ w.imSelf ∧ 0 ≤ w.imFromM

/-- the two exchange factors in closed form: the porosity share of the other zone times `1 - f` -/
theorem stagFactors_eq (f thM thIm : Rat) (hM : thM ≠ 0) :
    stagFactors f thM thIm = (thIm / (thM + thIm) * (1 - f), thM / (thM + thIm) * (1 - f)) := by
  refine Prod.ext ?_ ?_
  · show (thM / (thM + thIm) - thM / (thM + thIm) * f) * thIm / thM = _
    rw [div_eq_iff hM]; ring
  · show thM / (thM + thIm) - thM / (thM + thIm) * f = _
    ring

/-- the exchange fractions built by `transport()` conserve mass exactly when the water masses of the two cells are in
the ratio of the porosities (`water_im · th_m = water_m · th_im`) — for every value of the exponential `f` -/
theorem stagWeights_conserving (f thM thIm wm wim : Rat) (hM : thM ≠ 0) (hwm : wm ≠ 0) (hwi : wim ≠ 0)
    (hr : wim * thM = wm * thIm) : (stagWeights f thM thIm wm wim).Conserving := by
  have e1 : thM * wim / wm = thIm := by rw [div_eq_iff hwm, mul_comm, hr, mul_comm]
  have e2 : thIm * wm / wim = thM := by rw [div_eq_iff hwi, mul_comm, ← hr, mul_comm]
  unfold StagW.Conserving stagWeights
  rw [stagFactors_eq f thM thIm hM]
  constructor
  · show 1 - thIm / (thM + thIm) * (1 - f) + thM / (thM + thIm) * (1 - f) * wim / wm = 1
    rw [← e1]; ring
  · show 1 - thM / (thM + thIm) * (1 - f) + thIm / (thM + thIm) * (1 - f) * wm / wim = 1
    rw [← e2]; ring

theorem share_le_one {a b : Rat} (ha : 0 < a) (hb : 0 < b) : a / (a + b) ≤ 1 :=
  (div_le_one (add_pos ha hb)).2 (le_add_of_nonneg_right hb.le)

theorem stagWeights_nonneg {f thM thIm wm wim : Rat} (hf0 : 0 ≤ f) (hf1 : f ≤ 1) (hM : 0 < thM) (hI : 0 < thIm)
    (hwm : 0 < wm) (hwi : 0 < wim) : (stagWeights f thM thIm wm wim).Nonneg := by
  have hu0 : 0 ≤ 1 - f := sub_nonneg.2 hf1
  have hu1 : 1 - f ≤ 1 := sub_le_self 1 hf0
  have hI1 : thIm / (thM + thIm) ≤ 1 := by rw [add_comm]; exact share_le_one hI hM
  have hM1 := share_le_one hM hI
  unfold StagW.Nonneg stagWeights
  rw [stagFactors_eq f thM thIm hM.ne']
  exact ⟨sub_nonneg.2 (mul_le_one₀ hI1 hu0 hu1), by positivity, sub_nonneg.2 (mul_le_one₀ hM1 hu0 hu1), by positivity⟩

theorem stagGo_nil (ms is : List Rat) : stagGo ms is ([] : List (Option (StagW Rat))) = (ms, is) := by
  cases ms <;> cases is <;> rfl

theorem stagGo_nil_mid (ms : List Rat) (sw : List (Option (StagW Rat))) : stagGo ms [] sw = (ms, []) := by
  cases ms <;> rfl

theorem StagW.Conserving.pair_sum {w : StagW Rat} (h : w.Conserving) (m i : Rat) :
    (w.mSelf * m + w.mFromIm * i) + (w.imFromM * m + w.imSelf * i) = m + i := by
  have : (w.mSelf * m + w.mFromIm * i) + (w.imFromM * m + w.imSelf * i) =
      (w.mSelf + w.imFromM) * m + (w.imSelf + w.mFromIm) * i := by ring
  rw [this, h.1, h.2, one_mul, one_mul]

theorem stagGo_sum (ms is : List Rat) (sw : List (Option (StagW Rat))) (h : ∀ w, some w ∈ sw → w.Conserving) :
    (stagGo ms is sw).1.sum + (stagGo ms is sw).2.sum = ms.sum + is.sum := by
  fun_induction stagGo ms is sw with
  | case1 m ms i is w ws r ih =>
    simp only [List.sum_cons]
    rw [add_add_add_comm, (h w List.mem_cons_self).pair_sum, ih fun w' hw' => h w' (List.mem_cons_of_mem _ hw'),
      add_add_add_comm]
  | case2 m ms i is ws r ih =>
    simp only [List.sum_cons]
    rw [add_add_add_comm, ih fun w' hw' => h w' (List.mem_cons_of_mem _ hw'), add_add_add_comm]
  | case3 => rfl

theorem stagGo_length (ms is : List Rat) (sw : List (Option (StagW Rat))) :
    (stagGo ms is sw).1.length = ms.length ∧ (stagGo ms is sw).2.length = is.length := by
  fun_induction stagGo ms is sw with
  | case1 m ms i is w ws r ih => exact ⟨congrArg (· + 1) ih.1, congrArg (· + 1) ih.2⟩
  | case2 m ms i is ws r ih => exact ⟨congrArg (· + 1) ih.1, congrArg (· + 1) ih.2⟩
  | case3 => exact ⟨rfl, rfl⟩

theorem stagApply_sum {sw : List (Option (StagW Rat))} (h : ∀ w, some w ∈ sw → w.Conserving) (c : SCol Rat) :
    (stagApply sw c).sum = c.sum := by
  simp only [stagApply, SCol.sum]
  exact stagGo_sum _ _ _ h

theorem mixStagStep_keeps {ws : List (W Rat)} {n : Nat} (hs : SymEnds 0 0 ws) (hl : ws = [] ∨ ws.length = n)
    {sw : List (Option (StagW Rat))} (hsw : ∀ w, some w ∈ sw → w.Conserving) {x : Rat} {c : SCol Rat}
    (h : c.sum = x ∧ c.mob.cells.length = n) :
    (mixStagStep ws sw c).sum = x ∧ (mixStagStep ws sw c).mob.cells.length = n := by
  have hm := mixStep_keeps hs hl (c := c.mob) ⟨rfl, h.2⟩
  refine ⟨?_, ((stagGo_length _ _ _).1).trans hm.2⟩
  rw [mixStagStep, stagApply_sum hsw, ← h.1]
  exact congrArg (· + c.imm.sum) hm.1

theorem iterS_mixStagStep_keeps {ws : List (W Rat)} {n : Nat} (hs : SymEnds 0 0 ws) (hl : ws = [] ∨ ws.length = n)
    {sw : List (Option (StagW Rat))} (hsw : ∀ w, some w ∈ sw → w.Conserving) (k : Nat) {x : Rat} {c : SCol Rat}
    (h : c.sum = x ∧ c.mob.cells.length = n) :
    (iterS (mixStagStep ws sw) k c).sum = x ∧ (iterS (mixStagStep ws sw) k c).mob.cells.length = n :=
  iterS_inv (P := fun c => c.sum = x ∧ c.mob.cells.length = n) (fun _ => mixStagStep_keeps hs hl hsw) k h

theorem stagGo_rel {lo hi : Rat} (sw : List (Option (StagW Rat))) (h : ∀ w, some w ∈ sw → w.Nonneg) :
    ∀ {ms mw is iw : List Rat}, List.Forall₂ (Rel lo hi) ms mw → List.Forall₂ (Rel lo hi) is iw →
    List.Forall₂ (Rel lo hi) (stagGo ms is sw).1 (stagGo mw iw sw).1 ∧
    List.Forall₂ (Rel lo hi) (stagGo ms is sw).2 (stagGo mw iw sw).2 := by
  induction sw with
  | nil => intro ms mw is iw hm hi'; rw [stagGo_nil, stagGo_nil]; exact ⟨hm, hi'⟩
  | cons w ws ih =>
    intro ms mw is iw hm hi'
    cases hm with
    | nil => exact ⟨List.Forall₂.nil, hi'⟩
    | cons hmw hrest =>
      cases hi' with
      | nil => rw [stagGo_nil_mid, stagGo_nil_mid]; exact ⟨List.Forall₂.cons hmw hrest, List.Forall₂.nil⟩
      | cons hiw hirest =>
        obtain ⟨r1, r2⟩ := ih (fun w' hw' => h w' (List.mem_cons_of_mem _ hw')) hrest hirest
        cases w with
        | none => exact ⟨List.Forall₂.cons hmw r1, List.Forall₂.cons hiw r2⟩
        | some w =>
          obtain ⟨h1, h2, h3, h4⟩ := h w List.mem_cons_self
          exact ⟨List.Forall₂.cons ((hmw.smul h1).add (hiw.smul h2)) r1,
            List.Forall₂.cons ((hmw.smul h4).add (hiw.smul h3)) r2⟩

/-- solute amount and water mass of a column with stagnant layer, cell-wise ratio within `[lo, hi]` -/
def SCol.RelW (lo hi : Rat) (n w : SCol Rat) : Prop :=
  Col.RelW lo hi n.mob w.mob ∧ List.Forall₂ (Rel lo hi) n.imm w.imm

theorem stagApply_rel {lo hi : Rat} {sw : List (Option (StagW Rat))} (h : ∀ w, some w ∈ sw → w.Nonneg) {n w : SCol Rat}
    (hr : SCol.RelW lo hi n w) : SCol.RelW lo hi (stagApply sw n) (stagApply sw w) := by
  obtain ⟨⟨a, b, c⟩, d⟩ := hr
  obtain ⟨r1, r2⟩ := stagGo_rel sw h b d
  exact ⟨⟨a, r1, c⟩, r2⟩

theorem mixStagStep_rel {lo hi : Rat} {ws : List (W Rat)} (hw : ∀ w ∈ ws, w.Convex) {sw : List (Option (StagW Rat))}
    (h : ∀ w, some w ∈ sw → w.Nonneg) {n w : SCol Rat} (hr : SCol.RelW lo hi n w) :
    SCol.RelW lo hi (mixStagStep ws sw n) (mixStagStep ws sw w) :=
  stagApply_rel h ⟨mixStep_rel (Rel.mixes lo hi) hw hr.1, hr.2⟩

theorem transportStagStepWith_rel {lo hi : Rat} {ws : List (W Rat)} (hw : ∀ w ∈ ws, w.Convex) {sw : List (Option (StagW Rat))}
    (h : ∀ w, some w ∈ sw → w.Nonneg) (nmix pre : Nat) (f : Flow) {n w : SCol Rat} (hr : SCol.RelW lo hi n w) :
    SCol.RelW lo hi (transportStagStepWith ws sw nmix pre f n) (transportStagStepWith ws sw nmix pre f w) := by
  have h1 := iterS_rel (fun _ _ hh => mixStagStep_rel hw h hh) pre n w hr
  unfold transportStagStepWith
  apply iterS_rel (fun _ _ hh => mixStagStep_rel hw h hh)
  -- the advective copy touches the mobile cells only
  split
  · exact stagApply_rel h ⟨shift_rel f h1.1, h1.2⟩
  · exact ⟨shift_rel f h1.1, h1.2⟩

end PhreeqcVerif.Transport
