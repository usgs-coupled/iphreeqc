import PhreeqcVerif.Model.LineReader
/-! Lemmas about the reader model (C04): append behaviour of every layer, link between the per-call function and the
fused line list, termination of the caller's loop; at the end `ByteArray.toList` as a plain list (`byteArray_toList`), by
which the examples of C04 evaluate their string literals. Core Lean only. -/
namespace PhreeqcVerif.LineReader

/-! ### getc layer -/

theorem decodeAux_append (a b : Bytes) (p : Bool) (h : pendAfter p a = false) :
    decodeAux p (a ++ b) = decodeAux p a ++ decodeAux false b := by
  have hnc : Gen.Keywords.c_nl ≠ Gen.Keywords.c_cr := by decide
  fun_induction decodeAux p a <;> simp_all [pendAfter, decodeAux]

theorem decode_append (a b : Bytes) (h : pendAfter false a = false) : decode (a ++ b) = decode a ++ decode b :=
  decodeAux_append a b false h

/-! ### get_logical_line -/

theorem step_some_init {st : RS} {c : UInt8} {l : Bytes} (h : (step st c).1 = some l) : (step st c).2 = RS.init := by
  revert h
  fun_cases step st c <;> simp

theorem linesFrom_init_nil : linesFrom RS.init [] = [] := by
  simp [linesFrom, flushLine, RS.init]

theorem endState_cons (st : RS) (c : UInt8) (r : Bytes) : endState st (c :: r) = endState (step st c).2 r := rfl

theorem linesFrom_append (a b : Bytes) : ∀ st, endState st a = RS.init →
    linesFrom st (a ++ b) = linesFrom st a ++ linesFrom RS.init b := by
  induction a with
  | nil => intro st h; simp [endState] at h; subst h; simp [linesFrom_init_nil]
  | cons c r ih =>
    intro st h
    rw [endState_cons] at h
    simp only [List.cons_append, linesFrom]
    cases (step st c).1 <;> simpa using ih _ h

/-- one `get_logical_line` call followed by the rest of the loop is the fused list -/
theorem scan_iterates (s : Bytes) : ∀ st, linesFrom st s =
    if (scanFrom st s).isEOF then [] else (scanFrom st s).line :: linesFrom RS.init (scanFrom st s).rest := by
  induction s with
  | nil => intro st; simp [linesFrom, scanFrom, LL.isEOF, linesFrom_init_nil]
  | cons c r ih =>
    intro st
    cases hs : (step st c).1 with
    | none => simp only [linesFrom, scanFrom, hs]; exact ih _
    | some l => simp [linesFrom, scanFrom, hs, step_some_init hs, LL.isEOF]

theorem scanFrom_rest (s : Bytes) : ∀ st, ((scanFrom st s).eof = true → (scanFrom st s).rest = []) ∧
    ((scanFrom st s).eof = false → (scanFrom st s).rest.length < s.length) := by
  induction s with
  | nil => intro st; simp [scanFrom]
  | cons c r ih =>
    intro st
    simp only [scanFrom]
    cases hs : (step st c).1 with
    | none => exact ⟨(ih _).1, fun h => Nat.lt_succ_of_lt ((ih _).2 h)⟩
    | some l => simp

theorem iterLines_eq : ∀ (n : Nat) (s : Bytes), s.length < n → iterLines n s = some (linesFrom RS.init s)
  | 0, _, h => absurd h (Nat.not_lt_zero _)
  | n + 1, s, h => by
    rw [scan_iterates s RS.init, iterLines, scan]
    split
    · rfl
    · rename_i hne
      -- a call that does not report LT_EOF leaves less than it was given: it consumed a byte, or it flushed an open
      -- line at the end of a non-empty input
      have hlt : (scanFrom RS.init s).rest.length < n := by
        obtain ⟨h1, h2⟩ := scanFrom_rest s RS.init
        cases he : (scanFrom RS.init s).eof with
        | false => exact Nat.lt_of_lt_of_le (h2 he) (Nat.le_of_lt_succ h)
        | true =>
          cases s with
          | nil => simp [scanFrom, flushLine, RS.init, LL.isEOF] at hne
          | cons c r => rw [h1 he]; exact Nat.lt_of_lt_of_le (Nat.succ_pos _) (Nat.le_of_lt_succ h)
      rw [iterLines_eq n _ hlt]; rfl

/-! ### logical lines of raw bytes -/

theorem closed_iff (a : Bytes) : closed a = true ↔ pendAfter false a = false ∧ endState RS.init (decode a) = RS.init := by
  simp [closed]

theorem logicalLines_append (a b : Bytes) (h : closed a = true) :
    logicalLines (a ++ b) = logicalLines a ++ logicalLines b := by
  have ⟨h1, h2⟩ := (closed_iff a).1 h
  simp only [logicalLines, decode_append a b h1]
  exact linesFrom_append (decode a) (decode b) RS.init h2

theorem readLines_append (a b : Bytes) (h : closed a = true) : readLines (a ++ b) = readLines a ++ readLines b := by
  simp [readLines, logicalLines_append a b h]

/-! ### simulations -/

theorem simsAux_append (la lb cur : List CLine) (h : openAfter cur la = []) :
    simsAux cur (la ++ lb) = simsAux cur la ++ simsAux [] lb := by
  fun_induction openAfter cur la <;> simp_all [simsAux]

theorem sims_append (la lb : List CLine) (h : openAfter [] la = []) : sims (la ++ lb) = sims la ++ sims lb :=
  simsAux_append la lb [] h

theorem endBoundary_iff (a : Bytes) : endBoundary a = true ↔ closed a = true ∧ openAfter [] (readLines a) = [] := by
  simp [endBoundary, List.isEmpty_iff]

/-! ### include files -/

theorem readLinesFS_append (fs : Bytes → Option Bytes) (d : Nat) (a b : Bytes) (h : closed a = true) :
    readLinesFS fs d (a ++ b) = readLinesFS fs d a ++ readLinesFS fs d b := by
  cases d <;> simp [readLinesFS, readLines_append a b h]

theorem linesFS_append (fs : Bytes → Option Bytes) (d : Nat) (a b : Bytes) (h : closed a = true) :
    linesFS fs d (a ++ b) = linesFS fs d a ++ linesFS fs d b := by
  simp [linesFS, readLinesFS_append fs d a b h]

theorem endBoundaryFS_iff (fs : Bytes → Option Bytes) (d : Nat) (a : Bytes) :
    endBoundaryFS fs d a = true ↔ closed a = true ∧ openAfter [] (linesFS fs d a) = [] := by
  simp [endBoundaryFS, List.isEmpty_iff]

/-! ### bytes of a string literal -/

/-- `ByteArray.toList` runs by well-founded recursion on an index; as a plain list it is the array's data. -/
theorem byteArray_toList (b : ByteArray) : b.toList = b.data.toList := by
  have loop (i : Nat) (r : List UInt8) : ByteArray.toList.loop b i r = r.reverse ++ b.data.toList.drop i := by
    fun_induction ByteArray.toList.loop b i r with
    | case1 i r h ih =>
      have h' : i < b.data.size := h
      rw [List.drop_eq_getElem_cons (by simpa using h'), ih, ByteArray.get!, getElem!_pos b.data i h']
      simp
    | case2 i r h =>
      have h' : b.data.size ≤ i := Nat.le_of_not_lt h
      rw [List.drop_of_length_le (by simpa using h'), List.append_nil]
  simp [ByteArray.toList, loop]

end PhreeqcVerif.LineReader
