import PhreeqcVerif.Model.RK
import Mathlib.Tactic.Linarith
import Mathlib.Tactic.SplitIfs
import Mathlib.Algebra.Order.Field.Basic
/-! Lemmas for Properties/C12.lean about `Model/RK.lean`: `sumL` and `dotL` by their equations; the clamp and the
MOLES_TOO_LARGE reduction; every attempt that ends accepted or rejected went through the error gate; the step-size
controller keeps its invariant, and the loop theorem by induction along `loop`. -/
namespace PhreeqcVerif.RK

/-! ### Tableau algebra -/

theorem sumL_eq_sum (l : List Rat) : sumL l = l.sum := List.sum_eq_foldl.symm

@[simp] theorem sumL_nil : sumL [] = 0 := rfl

@[simp] theorem sumL_cons (x : Rat) (l : List Rat) : sumL (x :: l) = x + sumL l := by
  simp only [sumL_eq_sum, List.sum_cons]

@[simp] theorem dotL_nil (v : List Rat) : dotL [] v = 0 := rfl

@[simp] theorem dotL_cons (x y : Rat) (w v : List Rat) : dotL (x :: w) (y :: v) = x * y + dotL w v := by
  unfold dotL
  rw [List.zip_cons_cons, List.map_cons, sumL_cons]

theorem dotL_replicate (w : List Rat) (k : Rat) : dotL w (List.replicate w.length k) = sumL w * k := by
  induction w with
  | nil => rw [dotL_nil, sumL_nil, zero_mul]
  | cons x w ih => rw [List.length_cons, List.replicate_succ, dotL_cons, ih, sumL_cons, add_mul]

variable {f : TransFns Rat} {P : Params Rat} {pw : Rat → Rat → Rat} {F : Rat → List Rat → Rat → List Rat}
  {T t0 h hOld hSum e : Rat} {tol : List Rat} {ct : Ctrl Rat} {ch : Chem Rat}

/-- `calc_final_kinetic_reaction` never takes more than is there -/
theorem clamp_le (moles mTemp : List Rat) :
    letI := ratOps f
    ∀ p ∈ (clamp moles mTemp).zip mTemp, p.1 ≤ p.2 := by
  induction moles generalizing mTemp with
  | nil => nofun
  | cons a t ih =>
    cases mTemp with
    | nil => nofun
    | cons b u =>
      intro p hp
      rcases List.mem_cons.mp hp with rfl | hp
      · show (if b < a then b else a) ≤ b
        split_ifs with hba
        exacts [le_rfl, not_lt.mp hba]
      · exact ih u p hp

/-! ### `moles_reduction` is a running maximum -/

section
variable {mmax : Rat}

theorem updReduction_cons (r x : Rat) (t : List Rat) :
    letI := ratOps f
    updReduction P mmax r (x :: t) =
      updReduction P mmax (if r * mmax < absv P.zero x then absv P.zero x / mmax else r) t :=
  List.foldl_cons ..

theorem le_updReduction (hm : 0 < mmax) (k : List Rat) (r : Rat) :
    letI := ratOps f
    r ≤ updReduction P mmax r k := by
  induction k generalizing r with
  | nil => exact le_rfl
  | cons x t ih =>
    rw [updReduction_cons]
    refine le_trans ?_ (ih _)
    split_ifs with hc
    exacts [((lt_div_iff₀ hm).mpr hc).le, le_rfl]

theorem div_le_updReduction (hm : 0 < mmax) {k : List Rat} {x : Rat} (hx : x ∈ k) (r : Rat) :
    letI := ratOps f
    absv P.zero x / mmax ≤ updReduction P mmax r k := by
  induction k generalizing r with
  | nil => cases hx
  | cons y t ih =>
    rw [updReduction_cons]
    rcases List.mem_cons.mp hx with rfl | hxt
    · refine le_trans ?_ (le_updReduction hm t _)
      split_ifs with hc
      exacts [le_rfl, (div_le_iff₀ hm).mpr (not_lt.mp hc)]
    · exact ih hxt _

end

/-- a fresh evaluation of the rates that returns more than `moles_max` for some reactant sends the attempt to
MOLES_TOO_LARGE, whatever would have followed -/
theorem k1Stage_reduces (hone : P.one = 1) (hl : ch.lBad = false) (hm : 0 < ch.molesMax)
    (hF : letI := ratOps f; ∃ x ∈ F (t0 + hSum) ch.m h, ch.molesMax < absv P.zero x) (k : Chem Rat → Outcome Rat) :
    letI := ratOps f
    ∃ c', k1Stage P F t0 h hOld hSum ch k = .reduce c' ∧ 1 < c'.mr := by
  obtain ⟨x, hx, hxb⟩ := hF
  have key := ((one_lt_div hm).mpr hxb).trans_le (div_le_updReduction (f := f) (P := P) hm hx ch.mr)
  unfold k1Stage orReduce
  rw [hl, hone]
  exact ⟨_, if_pos key, key⟩

/-! ### The error gate -/

/-- an attempt that ends accepted passed the error test and one that ends rejected failed it (the two gotos say nothing) -/
def Gated (one : Rat) : Outcome Rat → Prop
  | .accepted e _ => e ≤ one
  | .rejected e _ => one < e
  | _ => True

section
variable {one : Rat} {k : Chem Rat → Outcome Rat}

theorem orReduce_gated {one' : Rat} (hk : ∀ c, Gated one (k c)) :
    letI := ratOps f
    Gated one (orReduce one' ch k) := by
  unfold orReduce
  split_ifs
  exacts [trivial, hk _]

theorem orExit_gated {cond : Bool} {ex : Chem Rat} {k : Unit → Outcome Rat} (hk : Gated one (k ())) :
    Gated one (orExit cond ex k) := by
  unfold orExit
  split_ifs
  exacts [trivial, hk]

theorem gate_gated {chR : Chem Rat} {chA : Unit → Chem Rat} :
    letI := ratOps f
    Gated one (gate one e chR chA) := by
  unfold gate
  split_ifs with hgt
  exacts [hgt, not_lt.mp hgt]

theorem k1Stage_gated (hk : ∀ c, Gated one (k c)) :
    letI := ratOps f
    Gated one (k1Stage P F t0 h hOld hSum ch k) := by
  unfold k1Stage
  split_ifs
  exacts [hk _, orReduce_gated hk]

theorem rk1Stage_gated {n : Nat} (hk : ∀ c, Gated one (k c)) :
    letI := ratOps f
    Gated one (rk1Stage P F t0 tol h hSum n ch k) := by
  unfold rk1Stage
  split_ifs
  exacts [orExit_gated (hk _), hk _]

end

/-- `pass` is a chain of the combinators above that ends in `gate` -/
theorem pass_gated :
    letI := ratOps f
    Gated P.one (pass P F t0 tol h hOld hSum ch) := by
  unfold pass stages456
  refine k1Stage_gated fun _ => rk1Stage_gated fun _ => orReduce_gated fun _ => orExit_gated ?_
  refine orReduce_gated fun _ => orExit_gated ?_
  exact orReduce_gated fun _ => orReduce_gated fun _ => gate_gated

theorem pass_accepted {ch' : Chem Rat} (hp : letI := ratOps f; pass P F t0 tol h hOld hSum ch = .accepted e ch') :
    e ≤ P.one :=
  show Gated P.one (.accepted e ch') from hp ▸ pass_gated

theorem pass_rejected {ch' : Chem Rat} (hp : letI := ratOps f; pass P F t0 tol h hOld hSum ch = .rejected e ch') :
    P.one < e :=
  show Gated P.one (.rejected e ch') from hp ▸ pass_gated

/-! ### The step-size controller and the loop -/

/-- what the controller theorems need to know about the constants and about `pow` -/
structure CtrlHyp (P : Params Rat) (pw : Rat → Rat → Rat) : Prop where
  zero_eq : P.zero = 0
  one_eq : P.one = 1
  safety_pos : 0 < P.safety
  safety_le : P.safety ≤ 1
  grow_pos : 0 < P.growFactor
  thr_nonneg : 0 ≤ P.growThreshold
  pw_pos : ∀ x y, 0 < x → 0 < pw x y
  pw_le : ∀ x, 1 < x → pw x P.shrinkExp ≤ 1

/-- invariant of the step-size controller: the next sub-step is positive and does not overshoot `T`, the accepted
sub-steps add up to `h_sum`, and each of them passed the error test -/
structure Inv (T : Rat) (ct : Ctrl Rat) : Prop where
  h_pos : 0 < ct.h
  sum_le : ct.hSum ≤ T
  cap : ct.hSum < T → ct.hSum + ct.h ≤ T
  acc_sum : ct.accH.sum = ct.hSum
  err_le : ∀ e ∈ ct.accErr, e ≤ 1

theorem Inv.shrink {ct' : Ctrl Rat} (inv : Inv T ct) (hpos : 0 < ct'.h) (hle : ct'.h ≤ ct.h)
    (hs : ct'.hSum = ct.hSum) (ha : ct'.accH = ct.accH) (he : ct'.accErr = ct.accErr) : Inv T ct' where
  h_pos := hpos
  sum_le := hs ▸ inv.sum_le
  cap := fun hlt => by
    rw [hs] at hlt ⊢
    exact (add_le_add_right hle _).trans (inv.cap hlt)
  acc_sum := by rw [ha, hs]; exact inv.acc_sum
  err_le := he ▸ inv.err_le

theorem applyReduction_inv (H : CtrlHyp P pw) {ct1 : Ctrl Rat} {ch1 : Chem Rat}
    (hap : letI := ratOps f; applyReduction P ct ch = (ct1, ch1)) (inv : Inv T ct) (hlt : ct.hSum < T) :
    Inv T ct1 ∧ ct1.hSum < T := by
  unfold applyReduction at hap
  split_ifs at hap with hmr <;> cases hap
  · have hsh := mul_pos H.safety_pos inv.h_pos
    have hden : 1 ≤ P.one + ch.mr := by rw [H.one_eq] at hmr ⊢; linarith
    exact ⟨inv.shrink (div_pos hsh (lt_of_lt_of_le one_pos hden))
      ((div_le_self hsh.le hden).trans (mul_le_of_le_one_left inv.h_pos.le H.safety_le)) rfl rfl rfl, hlt⟩
  · exact ⟨inv, hlt⟩

theorem onReject_inv (H : CtrlHyp P pw) (he : 1 < e) (inv : Inv T ct) :
    letI := ratOps f
    Inv T (onReject P pw e ct) := by
  have hsh := mul_pos inv.h_pos H.safety_pos
  have hle : ct.h * P.safety ≤ ct.h := mul_le_of_le_one_right inv.h_pos.le H.safety_le
  have epos : 0 < e := one_pos.trans he
  unfold onReject
  split_ifs
  · exact inv.shrink (div_pos hsh epos) ((div_le_self hsh.le he.le).trans hle) rfl rfl rfl
  · exact inv.shrink (mul_pos hsh (H.pw_pos e _ epos)) ((mul_le_of_le_one_right hsh.le (H.pw_le e he)).trans hle)
      rfl rfl rfl

theorem onAccept_inv (H : CtrlHyp P pw) (hlt : ct.hSum < T) (he : e ≤ 1) (inv : Inv T ct) :
    letI := ratOps f
    Inv T (onAccept P pw T e ct) := by
  have hsum : (ct.h :: ct.accH).sum = ct.hSum + ct.h := by rw [List.sum_cons, inv.acc_sum, add_comm]
  have herr : ∀ x ∈ e :: ct.accErr, x ≤ 1 := List.forall_mem_cons.mpr ⟨he, inv.err_le⟩
  have h1pos : 0 < (if P.growThreshold < e then ct.h * P.safety * pw e P.growExp else ct.h * P.growFactor) := by
    split_ifs with ht
    · exact mul_pos (mul_pos inv.h_pos H.safety_pos) (H.pw_pos e _ (lt_of_le_of_lt H.thr_nonneg ht))
    · exact mul_pos inv.h_pos H.grow_pos
  unfold onAccept
  dsimp only
  generalize (if P.growThreshold < e then ct.h * P.safety * pw e P.growExp else ct.h * P.growFactor) = h1 at h1pos
  split_ifs with hlt2 hc
  · exact ⟨sub_pos.mpr hlt2, hlt2.le, fun _ => (add_sub_cancel _ _).le, hsum, herr⟩
  · exact ⟨h1pos, hlt2.le, fun _ => by linarith [not_lt.mp hc], hsum, herr⟩
  · exact ⟨inv.h_pos, inv.cap hlt, fun hlt3 => absurd hlt3 hlt2, hsum, herr⟩

theorem init_inv (H : CtrlHyp P pw) (hT : 0 < T) (stepDivide : Rat) (rk : Nat) (m : List Rat) :
    letI := ratOps f
    Inv T (init P t0 T stepDivide rk m).1 := by
  -- the first sub-step is `T` or `T / step_divide`
  have hh : 0 < (if P.one < stepDivide then T / stepDivide else T) ∧
      (if P.one < stepDivide then T / stepDivide else T) ≤ T := by
    rw [H.one_eq]
    split_ifs with hsd
    · exact ⟨div_pos hT (one_pos.trans hsd), div_le_self hT.le hsd.le⟩
    · exact ⟨hT, le_rfl⟩
  unfold init
  exact ⟨hh.1, H.zero_eq ▸ hT.le, fun _ => by rw [H.zero_eq, zero_add]; exact hh.2, H.zero_eq ▸ rfl, nofun⟩

theorem loop_done (H : CtrlHyp P pw) (bsm fuel : Nat) (check : Bool) :
    letI := ratOps f
    Inv T ct → (check = false → ct.hSum < T) →
      (loop P pw F t0 T tol bsm fuel check ct ch).1 = Status.done →
      (loop P pw F t0 T tol bsm fuel check ct ch).2.1.accH.sum = T ∧
      ∀ e ∈ (loop P pw F t0 T tol bsm fuel check ct ch).2.1.accErr, e ≤ 1 := by
  -- entered by goto (`check = false`) or after a passed `while` test, the body runs with `h_sum < T`
  have running : ∀ {check : Bool} {ct : Ctrl Rat}, ¬(check && !decide (ct.hSum < T)) = true →
      (check = false → ct.hSum < T) → ct.hSum < T := by
    intro check ct hc hchk
    cases check
    exacts [hchk rfl, by simpa using hc]
  -- the cases are the branches of `loop` in the order of its text: 1 out of fuel, 2 the `while` test fails (normal exit),
  -- 3 too many bad steps, then by the outcome `hp` of `pass` after `applyReduction` (equation `hap`): 4 MOLES_TOO_LARGE
  -- (re-entered by goto, `check = false`), 5 rejected, 6 accepted, 7 early exit
  fun_induction @loop Rat (ratOps f) _ P pw F t0 T tol bsm fuel check ct ch
  case case1 | case3 | case7 => intro _ _ hd; cases hd
  case case2 _ _ ct _ hc =>
    intro inv _ _
    have hge : ¬ ct.hSum < T := by simpa using ((Bool.and_eq_true _ _).mp hc).2
    exact ⟨inv.acc_sum.trans (le_antisymm inv.sum_le (not_lt.mp hge)), inv.err_le⟩
  case case4 hc _ _ _ hap _ _ ih =>
    intro inv hchk
    obtain ⟨inv1, hlt1⟩ := applyReduction_inv H hap inv (running hc hchk)
    exact ih inv1 fun _ => hlt1
  case case5 hc _ _ _ hap _ _ hp ih =>
    intro inv hchk
    obtain ⟨inv1, _⟩ := applyReduction_inv H hap inv (running hc hchk)
    exact ih (onReject_inv H (H.one_eq ▸ pass_rejected hp) inv1) nofun
  case case6 hc _ _ _ hap _ _ hp ih =>
    intro inv hchk
    obtain ⟨inv1, hlt1⟩ := applyReduction_inv H hap inv (running hc hchk)
    exact ih (onAccept_inv H hlt1 (H.one_eq ▸ pass_accepted hp) inv1) nofun

/-- `rk_kinetics` over one kinetic step `T > 0`: on normal exit the accepted sub-steps sum to `T` and each passed the
error test -/
theorem rkKinetics_done (H : CtrlHyp P pw) (hT : 0 < T) (stepDivide : Rat) (rk : Nat) (m : List Rat) (bsm fuel : Nat) :
    letI := ratOps f
    (rkKinetics P pw F t0 T stepDivide rk tol m bsm fuel).1 = Status.done →
    (rkKinetics P pw F t0 T stepDivide rk tol m bsm fuel).2.1.accH.sum = T ∧
    ∀ e ∈ (rkKinetics P pw F t0 T stepDivide rk tol m bsm fuel).2.1.accErr, e ≤ 1 :=
  loop_done H bsm fuel true (init_inv (t0 := t0) H hT stepDivide rk m) nofun

end PhreeqcVerif.RK
