import PhreeqcVerif.Model.Store
/-! Lemmas for C14. The association-list model of `std::map<int, T>` is a lawful finite map; the copy loops of the
keyword drivers have closed map-level forms; every store operation keeps the list strictly ascending with key =
n_user; the map-level spec `C14.specOp` of the operations, which they refine one by one, and the locality of a run of
operations on one kind. Core Lean only. -/
namespace PhreeqcVerif.Store
open AMap

theorem find_ins (m : AMap) (n : Int) (e : Entry) (x : Int) :
    find (ins n e m) x = if n = x then some e else find m x := by
  induction m with
  | nil => rfl
  | cons p t ih =>
    obtain ⟨k, v⟩ := p
    simp only [ins]
    split
    · rfl
    · split
      · rename_i hk
        subst hk
        simp only [find]
        split <;> rfl
      · rename_i hk
        simp only [find, ih]
        by_cases hx : k = x
        · subst hx
          simp [hk]
        · simp [hx]

theorem find_put (m : AMap) (n : Int) (e : Entry) (x : Int) :
    find (m.put n e) x = if n = x then some { e with nUser := n } else find m x :=
  find_ins ..

theorem find_erase (m : AMap) (n x : Int) :
    find (m.erase n) x = if n = x then none else find m x := by
  induction m with
  | nil => exact (ite_self _).symm
  | cons p t ih =>
    obtain ⟨k, v⟩ := p
    rw [erase, List.filter_cons, ← erase]
    by_cases hk : k = n
    · subst hk
      simp only [bne_self_eq_false, Bool.false_eq_true, if_false, ih, find]
      split <;> rfl
    · simp only [bne_iff_ne, ne_eq, hk, not_false_eq_true, if_true, find, ih]
      by_cases hx : k = x
      · subst hx
        simp [Ne.symm hk]
      · simp [hx]

theorem find_mem {m : AMap} {n : Int} {e : Entry} (h : find m n = some e) : (n, e) ∈ m := by
  induction m with
  | nil => cases h
  | cons p t ih =>
    obtain ⟨k, v⟩ := p
    rw [find] at h
    split at h
    · rename_i hk
      cases h
      exact hk ▸ List.mem_cons_self ..
    · exact List.mem_cons_of_mem _ (ih h)

theorem renum_renum (e : Entry) (i j : Int) : renum (renum e i) j = renum e j := rfl
theorem renum_nUser (e : Entry) (j : Int) : { renum e j with nUser := j } = renum e j := rfl
theorem renum_content (e : Entry) (j : Int) : (renum e j).content = e.content := rfl

/-! ### the copy loops -/

theorem rxnCopy_of_some {m : AMap} {i : Int} {e : Entry} (h : find m i = some e) (j : Int) :
    rxnCopy m i j = m.put j (renum e j) := by
  rw [rxnCopy, h]

theorem find_rxnCopy (m : AMap) (i j x : Int) :
    find (rxnCopy m i j) x =
      match find m i with
      | some e => if j = x then some (renum e j) else find m x
      | none => find m x := by
  cases h : find m i with
  | none => rw [rxnCopy, h]
  | some e => rw [rxnCopy_of_some h, find_put]; rfl

/-- map-level meaning of a fan-out of entry `n` over `n+1 … hi` -/
def fanSpec (f : Int → Option Entry) (n hi : Int) : Int → Option Entry := fun x =>
  match f n with
  | some e => if n < x ∧ x ≤ hi then some (renum e x) else f x
  | none => f x

theorem fanSpec_of_not_mem {f : Int → Option Entry} {n hi x : Int} (h : ¬ (n < x ∧ x ≤ hi)) :
    fanSpec f n hi x = f x := by
  unfold fanSpec
  split
  · exact if_neg h
  · rfl

theorem find_eachLoop (m : AMap) (n : Int) (c : Nat) (x : Int) :
    find (eachLoop m n c) x = fanSpec (find m) n (n + c) x := by
  induction c generalizing x with
  | zero => exact (fanSpec_of_not_mem (by omega)).symm
  | succ c ih =>
    rw [eachLoop, find_rxnCopy, ih n, fanSpec_of_not_mem (by omega), ih x]
    unfold fanSpec
    cases find m n with
    | none => rfl
    | some e =>
      simp only
      by_cases hx : n + (c : Int) + 1 = x
      · subst hx
        rw [if_pos rfl, if_pos (by omega)]
      · rw [if_neg hx]
        by_cases h1 : n < x ∧ x ≤ n + (c : Int)
        · rw [if_pos h1, if_pos (by omega)]
        · rw [if_neg h1, if_neg (by omega)]

theorem eachLoop_none (m : AMap) (n : Int) (h : find m n = none) (c : Nat) : eachLoop m n c = m := by
  induction c with
  | zero => rfl
  | succ c ih => rw [eachLoop, ih, rxnCopy, h]

theorem find_copyEach (m : AMap) (n hi x : Int) : find (copyEach m n hi) x = fanSpec (find m) n hi x := by
  unfold copyEach
  split
  · exact (fanSpec_of_not_mem (by omega)).symm
  · rw [find_eachLoop, show n + ((hi - n).toNat : Int) = hi by omega]

/-- the chained loop of `Rxn_copies` builds the same list: every link holds the entry of `n` renumbered, and
renumbering twice is renumbering once -/
theorem copiesLoop_eq_eachLoop {m : AMap} {n : Int} {e : Entry} (h : find m n = some e) (c : Nat) :
    copiesLoop m n c = eachLoop m n c := by
  induction c with
  | zero => rfl
  | succ c ih =>
    have hn : find (eachLoop m n c) n = some e := by rw [find_eachLoop, fanSpec_of_not_mem (by omega), h]
    rw [copiesLoop, eachLoop, ih, rxnCopy_of_some hn]
    cases c with
    | zero => rw [Int.natCast_zero, Int.add_zero, rxnCopy_of_some hn]
    | succ c =>
      have hc : find (eachLoop m n (c + 1)) (n + (c + 1 : Nat)) = some (renum e (n + (c + 1 : Nat))) := by
        rw [find_eachLoop, fanSpec, h]
        exact if_pos (by omega)
      rw [rxnCopy_of_some hc, renum_renum]

theorem rxnCopies_eq_copyEach (m : AMap) (n hi : Int) : rxnCopies m n hi = copyEach m n hi := by
  unfold rxnCopies copyEach
  split
  · rfl
  · cases h : find m n with
    | none => exact (eachLoop_none m n h _).symm
    | some e => exact copiesLoop_eq_eachLoop h _

theorem find_rxnCopies (m : AMap) (n hi x : Int) : find (rxnCopies m n hi) x = fanSpec (find m) n hi x := by
  rw [rxnCopies_eq_copyEach, find_copyEach]

/-- map-level meaning of one COPY request -/
def copyToSpec (f : Int → Option Entry) (src : Int) (ts : List Int) : Int → Option Entry := fun x =>
  match f src with
  | some e => if x ∈ ts ∧ x ≠ src then some (renum e x) else f x
  | none => f x

theorem find_copyToLoop (src : Int) (e : Entry) (ts : List Int) (m : AMap) (h : find m src = some e) (x : Int) :
    find (copyToLoop m src ts) x = if x ∈ ts ∧ x ≠ src then some (renum e x) else find m x := by
  induction ts generalizing m with
  | nil => simp [copyToLoop]
  | cons i t ih =>
    rw [copyToLoop]
    split
    · rename_i his
      subst his
      rw [ih m h]
      by_cases hx : x = i <;> simp [hx]
    · rename_i his
      have h' : find (rxnCopy m src i) src = some e := by
        rw [rxnCopy_of_some h, find_put, if_neg his, h]
      rw [ih _ h', rxnCopy_of_some h, find_put]
      by_cases hx : x = i
      · subst hx
        simp [his, renum_nUser]
      · simp [hx, Ne.symm hx]

theorem find_copyTo (m : AMap) (src : Int) (ts : List Int) (x : Int) :
    find (copyTo m src ts) x = copyToSpec (find m) src ts x := by
  unfold copyTo copyToSpec
  cases h : find m src with
  | none => rfl
  | some e => exact find_copyToLoop src e ts m h x

/-! ### the loop of copy_entities -/

theorem mem_rangeList {lo hi x : Int} : x ∈ rangeList lo hi ↔ lo ≤ x ∧ x ≤ hi := by
  simp only [rangeList, List.mem_map, List.mem_range]
  constructor
  · rintro ⟨t, ht, rfl⟩
    omega
  · rintro ⟨hlo, hhi⟩
    obtain ⟨t, rfl⟩ := Int.le.dest hlo
    exact ⟨t, by omega, rfl⟩

theorem copyTargets_signed (a b : Int) : copyTargets false a b = some (rangeList a b) := by
  unfold copyTargets
  rw [if_neg Bool.false_ne_true]
  split
  · rw [rangeList, show (b - a + 1).toNat = 0 by omega]
    rfl
  · rfl

theorem mem_copyTargets_int (a b x : Int) :
    (∃ ts, copyTargets false a b = some ts ∧ (x ∈ ts ↔ a ≤ x ∧ x ≤ b)) :=
  ⟨_, copyTargets_signed a b, mem_rangeList⟩

theorem toU64_natCast {n : Nat} (h : n < two64) : toU64 n = n := by
  unfold toU64
  rw [Int.emod_eq_of_lt (Int.natCast_nonneg n) (Int.ofNat_lt.mpr h)]
  rfl

theorem toI32_of_lt {u : Nat} (h : u < 2147483648) : toI32 u = u := by
  have h' : u % two32 = u := Nat.mod_eq_of_lt (Nat.lt_trans h (by decide))
  simp only [toI32, h', h, if_true]

/-- inside 0 … 2^31-1 the `size_t` loop visits the same numbers as the `int` loop: nothing wraps -/
theorem copyTargets_unsigned_eq {a b : Int} (ha : 0 ≤ a) (ha' : a < 2147483648) (hb0 : 0 ≤ b) (hb : b < 2147483648) :
    copyTargets true a b = copyTargets false a b := by
  obtain ⟨a, rfl⟩ := Int.eq_ofNat_of_zero_le ha
  obtain ⟨b, rfl⟩ := Int.eq_ofNat_of_zero_le hb0
  have ha' : a < 2147483648 := Int.ofNat_lt.mp ha'
  have hb : b < 2147483648 := Int.ofNat_lt.mp hb
  have h64 : 2147483648 < two64 := by decide
  unfold copyTargets
  simp only [if_true, Bool.false_eq_true, if_false, toU64_natCast (Nat.lt_trans ha' h64),
    toU64_natCast (Nat.lt_trans hb h64), Int.ofNat_lt]
  by_cases hlt : b < a
  · rw [if_pos hlt, if_pos hlt]
  · have hn : ((b : Int) - a + 1).toNat = b - a + 1 := by omega
    rw [if_neg hlt, if_neg hlt, if_neg (by unfold two64; omega), if_neg (by unfold two32; omega), hn]
    congr 1
    apply List.map_congr_left
    intro t ht
    rw [List.mem_range] at ht
    rw [toI32_of_lt (by omega), Int.natCast_add]

/-! ### representation invariant: strictly ascending keys, and key = n_user (so DUMP prints the key) -/

def Sorted (m : AMap) : Prop := m.Pairwise (fun p q => p.1 < q.1)
def KeyOk (m : AMap) : Prop := ∀ p ∈ m, p.2.nUser = p.1
def Good (m : AMap) : Prop := Sorted m ∧ KeyOk m

theorem mem_ins {n : Int} {e : Entry} {m : AMap} {p : Int × Entry} (h : p ∈ ins n e m) : p = (n, e) ∨ p ∈ m := by
  induction m with
  | nil => exact Or.inl (List.mem_singleton.mp h)
  | cons q t ih =>
    obtain ⟨k, v⟩ := q
    simp only [ins] at h
    split at h
    · exact List.mem_cons.mp h
    · split at h
      · exact (List.mem_cons.mp h).imp_right (List.mem_cons_of_mem _)
      · rcases List.mem_cons.mp h with h | h
        · exact Or.inr (h ▸ List.mem_cons_self ..)
        · exact (ih h).imp_right (List.mem_cons_of_mem _)

theorem sorted_ins {m : AMap} (n : Int) (e : Entry) (h : Sorted m) : Sorted (ins n e m) := by
  induction m with
  | nil => exact List.pairwise_singleton ..
  | cons q t ih =>
    obtain ⟨k, v⟩ := q
    have ⟨hk, ht⟩ := List.pairwise_cons.mp h
    simp only [ins]
    split
    · rename_i hlt
      refine List.Pairwise.cons (fun p hp => ?_) h
      rcases List.mem_cons.mp hp with rfl | hp
      · exact hlt
      · exact Int.lt_trans hlt (hk p hp)
    · split
      · rename_i heq
        subst heq
        exact List.Pairwise.cons hk ht
      · refine List.Pairwise.cons (fun p hp => ?_) (ih ht)
        rcases mem_ins hp with rfl | hp
        · show k < n
          omega
        · exact hk p hp

theorem good_nil : Good ([] : AMap) := ⟨List.Pairwise.nil, fun _ hp => nomatch hp⟩

theorem good_put {m : AMap} (n : Int) (e : Entry) (h : Good m) : Good (m.put n e) :=
  ⟨sorted_ins n _ h.1, fun p hp => (mem_ins hp).elim (fun hp => hp ▸ rfl) (h.2 p)⟩

theorem good_erase {m : AMap} (n : Int) (h : Good m) : Good (m.erase n) :=
  ⟨h.1.filter _, fun p hp => h.2 p (List.mem_filter.mp hp).1⟩

theorem good_rxnCopy {m : AMap} (i j : Int) (h : Good m) : Good (rxnCopy m i j) := by
  unfold rxnCopy
  split
  · exact good_put _ _ h
  · exact h

theorem good_copyEach {m : AMap} (n hi : Int) (h : Good m) : Good (copyEach m n hi) := by
  unfold copyEach
  split
  · exact h
  · generalize (hi - n).toNat = c
    induction c with
    | zero => exact h
    | succ c ih => exact good_rxnCopy _ _ ih

theorem good_copyTo {m : AMap} (src : Int) (ts : List Int) (h : Good m) : Good (copyTo m src ts) := by
  unfold copyTo
  split
  · exact h
  · rename_i hs
    clear hs
    induction ts generalizing m with
    | nil => exact h
    | cons i t ih =>
      rw [copyToLoop]
      split
      · exact ih h
      · exact ih (good_rxnCopy _ _ h)

theorem good_onMap (op : SOp) {m : AMap} (h : Good m) : Good (op.onMap m) := by
  cases op <;> simp only [SOp.onMap]
  case put => exact good_put _ _ h
  case setEnd | setNewDef | modify =>
    split
    · exact good_put _ _ h
    · exact h
  case copy => exact good_rxnCopy _ _ h
  case copies => exact rxnCopies_eq_copyEach .. ▸ good_copyEach _ _ h
  case copyEach => exact good_copyEach _ _ h
  case copyTo => exact good_copyTo _ _ h
  case erase => exact good_erase _ h
  case clear => exact good_nil

theorem find_of_lt {m : AMap} {a : Int} (h : ∀ p ∈ m, a < p.1) : find m a = none := by
  induction m with
  | nil => rfl
  | cons p t ih =>
    obtain ⟨k, v⟩ := p
    have hk : a < k := h _ (List.mem_cons_self ..)
    rw [find, if_neg (by omega), ih fun p hp => h p (List.mem_cons_of_mem _ hp)]

/-- of two ascending lists with the same lookups, neither head key is below the other: it would be found on one
side only -/
theorem head_le_of_find_eq {k k' : Int} {v v' : Entry} {t t' : AMap} (h' : ∀ p ∈ t', k' < p.1)
    (h : find ((k, v) :: t) k = find ((k', v') :: t') k) : k' ≤ k := by
  apply Int.not_lt.mp
  intro hlt
  rw [find, if_pos rfl, find, if_neg (by omega), find_of_lt fun p hp => Int.lt_trans hlt (h' p hp)] at h
  cases h

/-- two good maps with the same lookups are the same list: the abstract view loses nothing -/
theorem good_ext {m₁ m₂ : AMap} (h₁ : Sorted m₁) (h₂ : Sorted m₂) (h : ∀ x, find m₁ x = find m₂ x) : m₁ = m₂ := by
  induction m₁ generalizing m₂ with
  | nil =>
    cases m₂ with
    | nil => rfl
    | cons q t => have := h q.1; simp [find] at this
  | cons p t ih =>
    cases m₂ with
    | nil => have := h p.1; simp [find] at this
    | cons q t' =>
      obtain ⟨k, v⟩ := p
      obtain ⟨k', v'⟩ := q
      have ⟨hk, ht⟩ := List.pairwise_cons.mp h₁
      have ⟨hk', ht'⟩ := List.pairwise_cons.mp h₂
      obtain rfl : k = k' := Int.le_antisymm (head_le_of_find_eq hk (h k').symm) (head_le_of_find_eq hk' (h k))
      obtain rfl : v = v' := by
        have := h k
        rw [find, find, if_pos rfl, if_pos rfl] at this
        exact Option.some.inj this
      congr 1
      refine ih ht ht' fun x => ?_
      by_cases hx : k = x
      · subst hx
        rw [find_of_lt hk, find_of_lt hk']
      · have := h x
        rwa [find, find, if_neg hx, if_neg hx] at this

/-! ### tables indexed by kind, and the store as one -/

theorem KTab.get_set {α} (t : KTab α) (k k' : Kind) (a : α) :
    (t.set k a).get k' = if k' = k then a else t.get k' := by
  cases k <;> cases k' <;> rfl

theorem KTab.get_const {α} (a : α) (k : Kind) : (KTab.const a).get k = a := by
  cases k <;> rfl

theorem KTab.get_map {α β} (f : α → β) (t : KTab α) (k : Kind) : (t.map f).get k = f (t.get k) := by
  cases k <;> rfl

theorem KTab.ext {α} {t u : KTab α} (h : ∀ k, t.get k = u.get k) : t = u := by
  cases t
  cases u
  simp only [KTab.mk.injEq]
  exact ⟨h .solution, h .pp, h .exchange, h .surface, h .ss, h .gas, h .kinetics, h .mix, h .reaction,
    h .temperature, h .pressure⟩

theorem get_applySOp (ms : Maps) (op : SOp) (k : Kind) :
    (applySOp ms op).get k = if k = op.kind then op.onMap (ms.get op.kind) else ms.get k :=
  KTab.get_set ..

theorem good_const_nil (k : Kind) : Good ((KTab.const ([] : AMap)).get k) := by
  rw [KTab.get_const]
  exact good_nil

theorem good_applySOp {ms : Maps} (h : ∀ k, Good (ms.get k)) (op : SOp) (k : Kind) : Good ((applySOp ms op).get k) := by
  rw [get_applySOp]
  split
  · exact good_onMap op (h _)
  · exact h k

/-! ### the abstract store `(kind, number) ↦ entry` and the map-level meaning of the operations -/

namespace C14

abbrev AStore := Kind → Int → Option Entry

def upd (f : Int → Option Entry) (n : Int) (v : Option Entry) : Int → Option Entry :=
  fun x => if n = x then v else f x

/-- what each store operation means for the finite map number ↦ entry of its kind -/
def specOp : SOp → (Int → Option Entry) → (Int → Option Entry)
  | .put _ n e, f => upd f n (some { e with nUser := n })
  | .setEnd _ n x, f => match f n with
    | some e => upd f n (some { e with nUserEnd := x, nUser := n }) | none => f
  | .setNewDef _ n b, f => match f n with
    | some e => upd f n (some { e with newDef := b, nUser := n }) | none => f
  | .modify k n x tok, f => match f n with
    | some e => upd f n (some { e with content := tok, nUserEnd := x,
                                       newDef := if k = .solution then e.newDef else false, nUser := n })
    | none => f
  | .copy _ i j, f => match f i with
    | some e => upd f j (some (renum e j)) | none => f
  | .copies _ n hi, f => fanSpec f n hi
  | .copyEach _ n hi, f => fanSpec f n hi
  | .copyTo _ src ts, f => copyToSpec f src ts
  | .erase _ n, f => upd f n none
  | .clear _, _ => fun _ => none

def specStep (a : AStore) (op : SOp) : AStore := fun k => if k = op.kind then specOp op (a k) else a k
def specRun (a : AStore) (ops : List SOp) : AStore := ops.foldl specStep a

theorem specStep_apply (a : AStore) (op : SOp) (k : Kind) (x : Int) :
    specStep a op k x = if k = op.kind then specOp op (a k) x else a k x := by
  unfold specStep
  split <;> rfl

theorem onMap_spec (op : SOp) (m : AMap) : find (op.onMap m) = specOp op (find m) := by
  funext x
  cases op <;> simp only [SOp.onMap, specOp, upd]
  case put => exact find_put ..
  case setEnd n _ | setNewDef n _ | modify n _ _ =>
    cases find m n with
    | none => rfl
    | some e => exact find_put ..
  case copy i j =>
    rw [find_rxnCopy]
    cases find m i <;> rfl
  case copies => exact find_rxnCopies ..
  case copyEach => exact find_copyEach ..
  case copyTo => exact find_copyTo ..
  case erase => exact find_erase ..
  case clear => rfl

theorem abs_applySOp (ms : Maps) (op : SOp) : abs (applySOp ms op) = specStep (abs ms) op := by
  funext k
  show find ((applySOp ms op).get k) = _
  rw [get_applySOp, specStep]
  split
  · rename_i h
    subst h
    exact onMap_spec op _
  · rfl

theorem specRun_kind {k : Kind} {ops : List SOp} (hk : ∀ op ∈ ops, op.kind = k) (a : AStore) (k' : Kind) :
    specRun a ops k' = if k' = k then ops.foldl (fun f op => specOp op f) (a k) else a k' := by
  induction ops generalizing a with
  | nil => exact (ite_eq_right_iff.mpr fun h => h ▸ rfl).symm
  | cons op t ih =>
    obtain ⟨rfl, ht⟩ := List.forall_mem_cons.mp hk
    rw [specRun, List.foldl_cons, ← specRun, ih ht]
    simp only [specStep, List.foldl_cons, if_true]
    split <;> rfl

/-- the shape of most statements about one kind: the run changes the numbers in `P` of kind `k`, and nothing else -/
theorem specRun_local {k : Kind} {ops : List SOp} (hk : ∀ op ∈ ops, op.kind = k) (a : AStore) (k' : Kind) (x : Int)
    {P : Prop} [Decidable P] {r : Option Entry}
    (h : ops.foldl (fun f op => specOp op f) (a k) x = if P then r else a k x) :
    specRun a ops k' x = if k' = k ∧ P then r else a k' x := by
  rw [specRun_kind hk]
  by_cases hk' : k' = k
  · subst hk'
    rw [if_pos rfl, h]
    simp only [true_and]
  · rw [if_neg hk', if_neg fun h => hk' h.1]

theorem specStep_local (a : AStore) (op : SOp) (k' : Kind) (x : Int) {P : Prop} [Decidable P] {r : Option Entry}
    (h : specOp op (a op.kind) x = if P then r else a op.kind x) :
    specStep a op k' x = if k' = op.kind ∧ P then r else a k' x :=
  specRun_local (ops := [op]) (by simp) a k' x h

end C14

end PhreeqcVerif.Store
