import PhreeqcVerif.Model.BasicExec
/-! Lemmas for C17 about the statement level of the interpreter (`Model/BasicExec.lean`): what its searches do on one
more frame or token (`popTo` on the loop stack, the nesting counters of `skipToElse` and of `whileSkipStep` under
`scanToks`) and where `dataPos` starts. Core Lean only. -/
namespace PhreeqcVerif.Basic
variable {α : Type}

theorem St.setVar_loops (s : St α) (n : String) (v : Var α) : (s.setVar n v).loops = s.loops := by
  unfold St.setVar
  split <;> rfl

theorem popTo_append {p stopAt : Loop α → Bool} (inner rest : List (Loop α))
    (h : ∀ l ∈ inner, stopAt l = false ∧ p l = false) : popTo p stopAt (inner ++ rest) = popTo p stopAt rest := by
  induction inner with
  | nil => rfl
  | cons l ls ih =>
    have hl := h l (List.mem_cons_self ..)
    rw [List.cons_append, popTo, hl.1, hl.2]
    exact ih fun x hx => h x (List.mem_cons_of_mem _ hx)

/-- after a first READ the search for the next DATA item starts where the last one ended -/
theorem dataPos_of_dataline [BNum α] {s : St α} {i : Nat} (hdl : s.dataline = some i) :
    dataPos s = if headIs s.datatok .comma then .ok (some i, s.datatok.drop 1)
      else match scanStream dataStep () (streamFrom s (some i) s.datatok) with
        | none => .error .outOfData
        | some p => .ok p := by
  unfold dataPos
  rw [hdl]
  rfl

/-! ### `skipToElse`: IF opens a level, ELSE closes one, the ELSE at level 0 is the one looked for -/

theorem skipToElse_if (i : Int) (hi : 0 ≤ i) (r : List (Tok α)) :
    skipToElse i ((.k .if_ : Tok α) :: r) = skipToElse (i + 1) r := by
  have : 0 ≤ i + 1 := by omega
  simp [skipToElse, Tok.isK, this]

theorem skipToElse_else_succ (i : Int) (hi : 0 ≤ i) (r : List (Tok α)) :
    skipToElse (i + 1) ((.k .else_ : Tok α) :: r) = skipToElse i r := by
  simp [skipToElse, Tok.isK, hi]

theorem skipToElse_else_zero (r : List (Tok α)) : skipToElse 0 ((.k .else_ : Tok α) :: r) = r := by
  simp [skipToElse, Tok.isK]

/-! ### `whileSkipStep`: the same counter for WHILE / WEND -/

theorem whileSkip_while (i : Int) (hi : 0 ≤ i) (r : List (Tok α)) :
    scanToks whileSkipStep i ((.k .while_ : Tok α) :: r) = scanToks whileSkipStep (i + 1) r := by
  have : 0 ≤ i + 1 := by omega
  simp [scanToks, whileSkipStep, Tok.isK, this]

theorem whileSkip_wend_succ (i : Int) (hi : 0 ≤ i) (r : List (Tok α)) :
    scanToks whileSkipStep (i + 1) ((.k .wend : Tok α) :: r) = scanToks whileSkipStep i r := by
  simp [scanToks, whileSkipStep, Tok.isK, hi]

theorem whileSkip_wend_zero (r : List (Tok α)) :
    scanToks whileSkipStep (0 : Int) ((.k .wend : Tok α) :: r) = .inr r := by
  simp [scanToks, whileSkipStep, Tok.isK]

end PhreeqcVerif.Basic
