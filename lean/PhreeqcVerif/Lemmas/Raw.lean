import PhreeqcVerif.Model.RawTables
/-!
# Lemmas for C10: `find_option`, the abstract record print / read model, tables as such records, serializer, `merge_redox`

* `findOption` is `List.findIdx?` on the case-folded prefix test.
* `Sys`: one print/read cycle has a closed form at every field (`cycle_routed`, `fresh_of_dropped`), from which the
  generic fixed-point theorem `cycle_idem` / `raw_fixed_point` follows for every system with `structOk` entries.
* The obligations on a `ClassTab` give `structOk (entriesOf t)` (`structOk_entriesOf`), so the fixed point holds for
  every table that meets them.
* `deserFlat` after `serFlat`, and `mergeRedox` on plain element totals.
-/
namespace PhreeqcVerif.Raw

/-! ## `find_option` is `List.findIdx?` -/

theorem findFrom_eq (p : String → Bool) (l : List String) (i : Nat) :
    findFrom p l i = (l.findIdx? p).map (· + i) := by
  induction l generalizing i with
  | nil => rfl
  | cons o os ih =>
    rw [findFrom, ih, List.findIdx?_cons]
    split <;> simp [Function.comp_def, Nat.add_comm, Nat.add_left_comm]

theorem findOption_eq (item : String) (l : List String) :
    findOption item l = l.findIdx? fun o => (lower item).isPrefixOf o.toList := by
  simp [findOption, findFrom_eq]

/-! ## the abstract record model: closed form of a cycle, fixed point -/
section
variable {F V : Type} [DecidableEq F]

/-- behavioural assumptions on values: printing-then-parsing is idempotent, does not change what the writer's
conditions see, and reproduces the values of a fresh object exactly. For the real code this is the IEEE-754
round-trip guarantee at the 17 significant digits `dump_raw` prints (`norm` is then the identity on doubles, names
and flags), and, for a nested block, `cycle_idem` of the sub-class. -/
structure Sys.ValOk (S : Sys F V) : Prop where
  norm_idem : ∀ f v, S.norm f (S.norm f v) = S.norm f v
  test_norm : ∀ f v, S.test f (S.norm f v) = S.test f v
  norm_fresh : ∀ f, S.norm f (S.fresh f) = S.fresh f

variable {S : Sys F V} {r : F → V}

theorem readLine_of_ne {acc : F → V} {l : Entry F × V} {x : F} (h : l.1.route ≠ some x) :
    readLine S acc l x = acc x := by
  cases hr : l.1.route with
  | none => simp [readLine, hr]
  | some f =>
    have : x ≠ f := fun hx => h (hx ▸ hr)
    simp [readLine, hr, this]

theorem foldl_printOf_cons (a : Entry F) (as : List (Entry F)) (acc : F → V) :
    (printOf S (a :: as) r).foldl (readLine S) acc = (printOf S as r).foldl (readLine S)
      (if guardHolds S a r = true then readLine S acc (a, r a.field) else acc) := by
  by_cases hg : guardHolds S a r = true <;> simp [printOf, hg]

theorem fold_unrouted {x : F} {es : List (Entry F)} {acc : F → V} (h : ∀ e ∈ es, e.route ≠ some x) :
    (printOf S es r).foldl (readLine S) acc x = acc x := by
  induction es generalizing acc with
  | nil => rfl
  | cons a as ih =>
    obtain ⟨ha, has⟩ := List.forall_mem_cons.mp h
    rw [foldl_printOf_cons, ih has]
    split
    · exact readLine_of_ne ha
    · rfl

theorem nodupF_cons {x : F} {xs : List F} : nodupF (x :: xs) = true ↔ x ∉ xs ∧ nodupF xs = true := by
  simp [nodupF]

omit [DecidableEq F] in
theorem field_of_route {e : Entry F} (h : e.route = none ∨ e.route = some e.field) {x : F} (hx : e.route = some x) :
    e.field = x := by
  rw [hx] at h
  simpa [eq_comm] using h

/-- the line of an entry routed to its own field: under the first two structural obligations no other line is routed
there -/
theorem fold_routed {es : List (Entry F)} {acc : F → V} (hroute : ∀ e ∈ es, e.route = none ∨ e.route = some e.field)
    (hnd : nodupF (es.map (·.field)) = true) {e : Entry F} (he : e ∈ es) (hr : e.route = some e.field) :
    (printOf S es r).foldl (readLine S) acc e.field =
      if guardHolds S e r = true then S.norm e.field (r e.field) else acc e.field := by
  induction es generalizing acc with
  | nil => cases he
  | cons a as ih =>
    obtain ⟨hra, hroute'⟩ := List.forall_mem_cons.mp hroute
    obtain ⟨hnot, hnd'⟩ := nodupF_cons.mp hnd
    rw [foldl_printOf_cons]
    rcases List.mem_cons.mp he with rfl | he'
    · rw [fold_unrouted fun e' he' h => hnot (List.mem_map.mpr ⟨e', he', field_of_route (hroute' e' he') h⟩)]
      split
      · simp [readLine, hr]
      · rfl
    · have hne : a.route ≠ some e.field := fun h =>
        hnot (List.mem_map.mpr ⟨e, he', (field_of_route hra h).symm⟩)
      rw [ih hroute' hnd' he']
      congr 1
      split
      · exact readLine_of_ne hne
      · rfl

theorem structOk_iff {es : List (Entry F)} : structOk es = true ↔
    (∀ e ∈ es, e.route = none ∨ e.route = some e.field) ∧ nodupF (es.map (·.field)) = true ∧
    ∀ e ∈ es, ∀ m, e.guard = some m →
      m = e.field ∨ ∃ e' ∈ es, e'.field = m ∧ e'.guard = none ∧ e'.route = some m := by
  simp only [structOk, Bool.and_eq_true, List.all_eq_true, Bool.or_eq_true, beq_iff_eq, and_assoc]
  refine and_congr_right fun _ => and_congr_right fun _ => forall₂_congr fun e _ => ?_
  cases e.guard <;> simp [and_assoc]

theorem cycle_routed (h : structOk S.entries = true) {e : Entry F} (he : e ∈ S.entries) (hr : e.route = some e.field) :
    S.cycle r e.field = if guardHolds S e r = true then S.norm e.field (r e.field) else S.fresh e.field :=
  fold_routed (structOk_iff.mp h).1 (structOk_iff.mp h).2.1 he hr

/-- a field whose key is always written and routed to itself is restored (up to print/parse of the value) -/
theorem restored_of_routed (S : Sys F V) (h : structOk S.entries = true) (r : F → V) (e : Entry F)
    (he : e ∈ S.entries) (hr : e.route = some e.field) (hg : e.guard = none) :
    S.cycle r e.field = S.norm e.field (r e.field) := by
  rw [cycle_routed h he hr]
  simp [guardHolds, hg]

/-- a field whose key the reader drops (or that no key prints) comes back as in a fresh object -/
theorem fresh_of_dropped (S : Sys F V) (h : structOk S.entries = true) (r : F → V) (x : F)
    (hx : ∀ e ∈ S.entries, e.field = x → e.route = none) : S.cycle r x = S.fresh x := by
  refine fold_unrouted fun e he hrx => ?_
  rw [hx e he (field_of_route ((structOk_iff.mp h).1 e he) hrx)] at hrx
  cases hrx

/-- record level: for every system whose entries satisfy the structural obligations and whose values behave (`ValOk`),
one print/read cycle is idempotent — for every record `r`, at every field. -/
theorem cycle_idem (S : Sys F V) (h : structOk S.entries = true) (hv : S.ValOk) (r : F → V) :
    S.cycle (S.cycle r) = S.cycle r := by
  funext x
  by_cases hx : ∃ e ∈ S.entries, e.field = x ∧ e.route = some e.field
  · obtain ⟨e, he, rfl, hr⟩ := hx
    rw [cycle_routed h he hr, cycle_routed h he hr]
    by_cases hg : guardHolds S e r = true
    · -- the line is written again: its guard looks at a field that the cycle restored
      have hg' : guardHolds S e (S.cycle r) = true := by
        cases hgd : e.guard with
        | none => simp [guardHolds, hgd]
        | some m =>
          have hm : S.cycle r m = S.norm m (r m) := by
            rcases (structOk_iff.mp h).2.2 e he m hgd with rfl | ⟨e', he', rfl, hg', hr'⟩
            · rw [cycle_routed h he hr, if_pos hg]
            · exact restored_of_routed S h r e' he' hr' hg'
          simp only [guardHolds, hgd] at hg ⊢
          rw [hm, hv.test_norm, hg]
      rw [if_pos hg', if_pos hg, hv.norm_idem]
    · -- the line was not written: the field holds the fresh value, whose print/parse is exact
      rw [if_neg hg, hv.norm_fresh, ite_self]
  · have hd : ∀ e ∈ S.entries, e.field = x → e.route = none := fun e he hf =>
      ((structOk_iff.mp h).1 e he).resolve_right fun h1 => hx ⟨e, he, hf, h1⟩
    rw [fresh_of_dropped S h _ x hd, fresh_of_dropped S h _ x hd]

/-- text level, `raw_fixed_point` of DESIGN §5 C10: dump → read → dump → read → dump gives the same text as dump → read → dump. -/
theorem raw_fixed_point (S : Sys F V) (h : structOk S.entries = true) (hv : S.ValOk) (r : F → V) :
    S.print (S.cycle (S.cycle r)) = S.print (S.cycle r) := by
  rw [cycle_idem S h hv r]

end

/-! ## from a table to its entries: the obligations on a table give `structOk` of its abstract system -/
section
variable {t : ClassTab} {k : WKey} {m : String}

/-- the obligations `tableOk` collects, by name -/
structure Obligations (all : List ClassTab) (t : ClassTab) : Prop where
  keys_known : keysKnown t = true
  no_cross_wiring : noCrossWiring t = true
  state_restored : stateRestored t = true
  header_symmetric : headerSymmetric all t = true
  required_defined : requiredDefined t = true
  guards_ok : guardsOk t = true
  fields_distinct : fieldsDistinct t = true
  continuation_ok : continuationOk t = true
  single_field : singleField t = true

theorem tableOk_parts {all : List ClassTab} (h : tableOk all t = true) : Obligations all t := by
  simp only [tableOk, Bool.and_eq_true, and_assoc] at h
  obtain ⟨h1, h2, h3, h4, h5, h6, h7, h8, h9⟩ := h
  exact ⟨h1, h2, h3, h4, h5, h6, h7, h8, h9⟩

theorem fieldOf_eq_some : fieldOf k = some m ↔ k.members = [m] ∧ m ≠ "" := by
  unfold fieldOf
  split
  · next a h =>
    rw [h, Option.ite_none_left_eq_some, List.singleton_inj, Option.some_inj, and_comm]
    exact and_congr_right fun h => by rw [h]
  · next h => exact ⟨nofun, fun h' => (h m h'.1).elim⟩

theorem nodupF_eq_nodupB (l : List String) : nodupF l = nodupB l := by
  induction l with
  | nil => rfl
  | cons a l ih => simp [nodupF, nodupB, ih]

/-- the member the reader stores the line of key `k` into -/
def routeOf (t : ClassTab) (k : WKey) : Option String :=
  match resolve t k with
  | some c => c.sinks.head?
  | none => none

theorem routeOf_eq_some {s : String} :
    routeOf t k = some s ↔ ∃ c, resolve t k = some c ∧ c.sinks.head? = some s := by
  unfold routeOf
  cases resolve t k <;> simp

/-- the member a writer's condition looks at -/
def guardOf : Guard → Option String
  | .always => none
  | .nonEmpty g => some g
  | .flag g => some g

theorem guardOf_eq_some {gd : Guard} {g : String} : guardOf gd = some g ↔ gd = .nonEmpty g ∨ gd = .flag g := by
  cases gd <;> simp [guardOf]

theorem entriesOf_eq (t : ClassTab) : entriesOf t =
    t.written.filterMap fun k => (fieldOf k).map fun m => ⟨m, routeOf t k, guardOf k.guard⟩ := rfl

theorem mem_entriesOf {e : Entry String} : e ∈ entriesOf t ↔
    ∃ k ∈ t.written, ∃ m, fieldOf k = some m ∧ e = ⟨m, routeOf t k, guardOf k.guard⟩ := by
  simp only [entriesOf_eq, List.mem_filterMap, Option.map_eq_some_iff, eq_comm (a := e)]

theorem routeOf_cases (hx : noCrossWiring t = true) (hk : k ∈ t.written) (hf : fieldOf k = some m) :
    routeOf t k = none ∨ routeOf t k = some m := by
  obtain ⟨hm, hne⟩ := fieldOf_eq_some.mp hf
  cases hro : routeOf t k with
  | none => exact Or.inl rfl
  | some s =>
    obtain ⟨c, hr, hs⟩ := routeOf_eq_some.mp hro
    have h : ∀ s ∈ c.sinks, s = m := by
      simpa [isConst, hm, hne, hr, subset] using List.all_eq_true.mp hx k hk
    exact Or.inr (congrArg some (h s (List.mem_of_mem_head? hs)))

theorem routeOf_state (hx : noCrossWiring t = true) (hs : stateRestored t = true)
    (hk : k ∈ t.written) (hf : fieldOf k = some m) (hw : k.sect ≠ .work) : routeOf t k = some m := by
  obtain ⟨hm, hne⟩ := fieldOf_eq_some.mp hf
  have h := List.all_eq_true.mp hs k hk
  cases hr : resolve t k with
  | none => simp [isConst, hm, hne, hw, hr] at h
  | some c =>
    -- `m` is among the sinks, so there is a first sink, and by `routeOf_cases` it is `m`
    cases hc : c.sinks with
    | nil => simp [isConst, hm, hne, hw, hr, subset, hc] at h
    | cons s ss =>
      have hro : routeOf t k = some s := routeOf_eq_some.mpr ⟨c, hr, by rw [hc]; rfl⟩
      exact (routeOf_cases hx hk hf).resolve_left (by simp [hro])

/-- the obligations on a table give the structural hypotheses of the generic theorem for its entries; a flag guard
must name a member (a key printing the constant `""` has no entry that could restore it) -/
theorem structOk_entriesOf (hx : noCrossWiring t = true) (hd : fieldsDistinct t = true) (hg : guardsOk t = true)
    (hflag : t.written.all (fun k => k.guard != .flag "") = true) : structOk (entriesOf t) = true := by
  refine structOk_iff.mpr ⟨fun e he => ?_, ?_, fun e he g hge => ?_⟩
  · obtain ⟨k, hk, m, hf, rfl⟩ := mem_entriesOf.mp he
    exact routeOf_cases hx hk hf
  · have : (entriesOf t).map (·.field) = t.written.filterMap fieldOf := by
      simp [entriesOf_eq, List.map_filterMap, Option.map_map, Function.comp_def]
    rw [this, nodupF_eq_nodupB]
    exact hd
  · obtain ⟨k, hk, m, hf, rfl⟩ := mem_entriesOf.mp he
    have hm := (fieldOf_eq_some.mp hf).1
    have hgk := List.all_eq_true.mp hg k hk
    rcases guardOf_eq_some.mp hge with hkg | hkg
    · -- a guard on non-emptiness is on the printed member itself
      have : k.members = [g] := by simpa [hkg] using hgk
      exact Or.inl (List.singleton_inj.mp (this.symm.trans hm))
    · -- a flag is restored by the unguarded key `k'` that `guardsOk` names
      simp only [hkg, List.any_eq_true, Bool.and_eq_true, beq_iff_eq] at hgk
      obtain ⟨k', hk', ⟨hm', hg'⟩, hc'⟩ := hgk
      have hf' : fieldOf k' = some g :=
        fieldOf_eq_some.mpr ⟨hm', fun h => by simpa [hkg, h] using List.all_eq_true.mp hflag k hk⟩
      cases hr : resolve t k' with
      | none => simp [hr] at hc'
      | some c =>
        have : c.sinks = [g] := by simpa [hr] using hc'
        exact Or.inr ⟨_, mem_entriesOf.mpr ⟨k', hk', g, hf', rfl⟩, rfl, by rw [hg']; rfl,
          routeOf_eq_some.mpr ⟨c, hr, by rw [this]; rfl⟩⟩

theorem keys_routed (hx : noCrossWiring t = true) (hs : stateRestored t = true) :
    t.written.all (fun k => k.sect == .work || (fieldOf k).isNone ||
      (entriesOf t).any (fun e => some e.field == fieldOf k && e.route == some e.field)) = true := by
  rw [List.all_eq_true]
  intro k hk
  by_cases hw : k.sect = .work
  · simp [hw]
  · cases hf : fieldOf k with
    | none => simp
    | some m =>
      simp only [Bool.or_eq_true, List.any_eq_true, Bool.and_eq_true, beq_iff_eq]
      exact Or.inr ⟨_, mem_entriesOf.mpr ⟨k, hk, m, hf, rfl⟩, rfl, routeOf_state hx hs hk hf hw⟩

end

/-! ## members a reader case clears -/

theorem resolve_mem {t : ClassTab} {k : WKey} {c : RCase} (h : resolve t k = some c) : c ∈ t.cases := by
  unfold resolve at h
  split at h
  · exact List.mem_of_find?_eq_some h
  · obtain ⟨i, _, hi⟩ := Option.bind_eq_some_iff.mp h
    exact List.mem_of_find?_eq_some hi

theorem clobberPairs_eq_nil {t : ClassTab} (h : t.cases.all (·.clobbers.isEmpty) = true) : clobberPairs t = [] := by
  simp only [clobberPairs, List.flatMap_eq_nil_iff]
  intro k _
  split
  · rename_i c m hr _
    rw [List.isEmpty_iff.mp (List.all_eq_true.mp h c (resolve_mem hr))]
    rfl
  · rfl

/-! ## Serializer round trip -/
section
variable {F V : Type} [DecidableEq F]

/-- no `Nodup` is needed: all pushes of a field that occurs twice carry the same value -/
theorem deserFlat_serFlat (r : F → V) (ri rd : List V) (ops : List (FOp F)) (acc : F → V) (f : F) :
    deserFlat ops ((serFlat ops r).1 ++ ri, (serFlat ops r).2 ++ rd) acc f =
      if f ∈ ops.map (·.field) then r f else acc f := by
  induction ops generalizing acc with
  | nil => rfl
  | cons o os ih =>
    have step : deserFlat (o :: os) ((serFlat (o :: os) r).1 ++ ri, (serFlat (o :: os) r).2 ++ rd) acc =
        deserFlat os ((serFlat os r).1 ++ ri, (serFlat os r).2 ++ rd)
          (fun x => if x = o.field then r o.field else acc x) := by
      cases hk : o.kind <;> simp [serFlat, deserFlat, hk]
    rw [step, ih]
    by_cases hf : f = o.field <;> simp [hf]

/-- **Serializer round trip** for bracket-free programs: a reader that pops with the SAME op list the writer pushed with
restores every field exactly, whatever follows in the streams -/
theorem deser_ser_flat (ops : List (FOp F)) (hnd : (ops.map (·.field)).Nodup) (r : F → V) :
    ∀ (ri rd : List V) (acc : F → V) (f : F), f ∈ ops.map (·.field) →
      deserFlat ops ((serFlat ops r).1 ++ ri, (serFlat ops r).2 ++ rd) acc f = r f :=
  fun _ _ _ _ hf => by rw [deserFlat_serFlat, if_pos hf]

end

/-! ## `cxxNameDouble::merge_redox` (totals of SOLUTION_RAW / SOLUTION_MODIFY) -/
section
variable {V : Type}

theorem ndGet_filter {keep : String × V → Bool} {k : String} (h : ∀ x, x.1 = k → keep x = true) (m : NameDouble V) :
    ndGet (m.filter keep) k = ndGet m k := by
  simp only [ndGet, List.find?_filter]
  congr 2
  funext x
  by_cases hx : x.1 = k
  · simp [hx, h x hx]
  · simp [hx]

theorem ndGet_ndErase_self (m : NameDouble V) (k : String) : ndGet (ndErase m k) k = none := by
  simp [ndGet, ndErase, List.find?_filter]

theorem ndGet_ndSet_self (m : NameDouble V) (k : String) (v : V) : ndGet (ndSet m k v) k = some v := by
  have := ndGet_ndErase_self m k
  simp only [ndGet, Option.map_eq_none_iff] at this
  simp [ndGet, ndSet, List.find?_append, this]

theorem ndGet_ndSet_other (m : NameDouble V) (k k' : String) (v : V) (h : k' ≠ k) :
    ndGet (ndSet m k v) k' = ndGet m k' := by
  rw [← ndGet_filter (keep := (·.1 != k)) (fun x hx => by simp [hx, h]) m]
  simp [ndGet, ndSet, ndErase, List.find?_append, Ne.symm h]

theorem mem_ndSet {m : NameDouble V} {k : String} {v : V} {x : String × V} :
    x ∈ ndSet m k v ↔ x = (k, v) ∨ (x ∈ m ∧ x.1 ≠ k) := by
  simp [ndSet, ndErase, or_comm]

theorem not_startsWith_of_plain (n : String) {k : String} (hk : isRedox k = false) : startsWith (n ++ "(") k = false := by
  rw [Bool.eq_false_iff]
  intro h
  simp only [startsWith, List.isPrefixOf_iff_prefix, String.toList_append] at h
  obtain ⟨t, ht⟩ := h
  simp [isRedox, ← ht] at hk

theorem isRedox_eltName (n : String) : isRedox (eltName n) = false := by
  simp only [isRedox, eltName, String.toList_ofList]
  rw [Bool.eq_false_iff]
  intro h
  have := List.all_eq_true.mp List.all_takeWhile '(' (by simpa using h)
  simp at this

theorem mem_mergeOne_plain {m : NameDouble V} {n : String} {v : V} (hn : isRedox n = false) {x : String × V}
    (hx : x ∈ mergeOne m (n, v)) : x = (n, v) ∨ x ∈ m ∧ startsWith (n ++ "(") x.1 = false := by
  simp only [mergeOne, hn, Bool.false_eq_true, if_false] at hx
  rcases mem_ndSet.mp hx with rfl | ⟨h1, _⟩
  · exact .inl rfl
  · exact .inr (by simpa using h1)

/-- **plain element total**: after merging the total of a plain element name `n`, no valence-state entry `n(…)` remains,
the element total is the merged value, and every entry of other elements is untouched -/
theorem mergeOne_plain (m : NameDouble V) (n : String) (v : V) (hn : isRedox n = false) :
    (∀ x ∈ mergeOne m (n, v), startsWith (n ++ "(") x.1 = false) ∧
    ndGet (mergeOne m (n, v)) n = some v ∧
    (∀ k, k ≠ n → startsWith (n ++ "(") k = false → ndGet (mergeOne m (n, v)) k = ndGet m k) := by
  refine ⟨fun x hx => ?_, ?_⟩
  · rcases mem_mergeOne_plain hn hx with rfl | ⟨_, h⟩
    · exact not_startsWith_of_plain n hn
    · exact h
  · simp only [mergeOne, hn, Bool.false_eq_true, if_false]
    refine ⟨ndGet_ndSet_self _ _ _, fun k hk hp => ?_⟩
    rw [ndGet_ndSet_other _ _ _ _ hk, ndGet_filter fun x hx => by simp [hx, hp]]

/-- **valence-state total**: after merging the total of `El(v)`, the plain entry `El` is gone and the valence state holds
the merged value -/
theorem mergeOne_redox (m : NameDouble V) (n : String) (v : V) (hn : isRedox n = true) :
    ndGet (mergeOne m (n, v)) (eltName n) = none ∧ ndGet (mergeOne m (n, v)) n = some v := by
  have hne : eltName n ≠ n := fun h => by simpa [h, hn] using isRedox_eltName n
  simp only [mergeOne, hn, if_true]
  exact ⟨by rw [ndGet_ndSet_other _ _ _ _ hne, ndGet_ndErase_self], ndGet_ndSet_self _ _ _⟩

/-- the total of the plain element `n` is `v` and no valence-state entry `n(…)` is stored -/
structure PlainTotal (m : NameDouble V) (n : String) (v : V) : Prop where
  total : ndGet m n = some v
  noValence : ∀ x ∈ m, startsWith (n ++ "(") x.1 = false

theorem PlainTotal.mergeOne_of_ne {m : NameDouble V} {n : String} {v : V} (h : PlainTotal m n v) (hn : isRedox n = false)
    {e : String × V} (he : isRedox e.1 = false) (hne : n ≠ e.1) : PlainTotal (mergeOne m e) n v := by
  obtain ⟨_, _, h3⟩ := mergeOne_plain m e.1 e.2 he
  refine ⟨(h3 n hne (not_startsWith_of_plain e.1 hn)).trans h.total, fun x hx => ?_⟩
  rcases mem_mergeOne_plain he hx with rfl | ⟨hm, _⟩
  · exact not_startsWith_of_plain n he
  · exact h.noValence x hm

/-- merging only plain element totals (distinct names) — what `SOLUTION_MODIFY -totals` with element names does: for every
merged element the total is the given one and NO valence-state entry of it is left, whatever the map held before -/
theorem mergeRedox_plain : ∀ (src : NameDouble V), (∀ e ∈ src, isRedox e.1 = false) → (src.map (·.1)).Nodup →
    ∀ (m : NameDouble V), ∀ e ∈ src,
      ndGet (mergeRedox m src) e.1 = some e.2 ∧ ∀ x ∈ mergeRedox m src, startsWith (e.1 ++ "(") x.1 = false := by
  intro src
  induction src with
  | nil => intro _ _ m e he; cases he
  | cons a as ih =>
    intro hpl hnd m e he
    obtain ⟨hpa, hpl'⟩ := List.forall_mem_cons.mp hpl
    simp only [List.map_cons, List.nodup_cons] at hnd
    rcases List.mem_cons.mp he with rfl | h
    · -- established by the merge of `e` itself, kept by the merges that follow
      obtain ⟨h1, h2, _⟩ := mergeOne_plain m e.1 e.2 hpa
      have := List.foldlRecOn as mergeOne (motive := fun m' => PlainTotal m' e.1 e.2) ⟨h2, h1⟩ fun _ h' a ha =>
        h'.mergeOne_of_ne hpa (hpl' a ha) fun heq => hnd.1 (List.mem_map.mpr ⟨a, ha, heq.symm⟩)
      exact ⟨this.total, this.noValence⟩
    · exact ih hpl' hnd.2 (mergeOne m a) e h

end

end PhreeqcVerif.Raw
