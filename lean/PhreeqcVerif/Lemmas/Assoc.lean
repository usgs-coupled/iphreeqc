/-! `List.lookup` on association lists after the three ways the models change them: a new head, a key removed, the
values rewritten. -/
namespace PhreeqcVerif.Assoc

theorem lookup_cons {α β} [DecidableEq α] (l : List (α × β)) (a k : α) (v : β) :
    List.lookup a ((k, v) :: l) = if a = k then some v else List.lookup a l := by
  rw [List.lookup_cons]
  by_cases h : a = k
  · simp [h]
  · rw [beq_false_of_ne h, if_neg h]

theorem lookup_filter_ne {α β} [DecidableEq α] (l : List (α × β)) (a b : α) :
    List.lookup a (l.filter (fun p => p.1 ≠ b)) = if a = b then none else List.lookup a l := by
  induction l with
  | nil => simp
  | cons p ps ih =>
    obtain ⟨k, v⟩ := p
    by_cases hk : k = b
    · subst hk
      simp only [List.filter_cons, ne_eq, not_true_eq_false, decide_false, Bool.false_eq_true, if_false, ih, lookup_cons]
      split <;> rfl
    · simp only [List.filter_cons, ne_eq, hk, not_false_eq_true, decide_true, if_true, lookup_cons, ih]
      by_cases ha : a = k
      · simp [ha, hk]
      · simp [ha]

theorem lookup_map_update {α β} [DecidableEq α] (l : List (α × β)) (a b : α) (v : β) :
    List.lookup a (l.map (fun p => if p.1 = b then (p.1, v) else p)) =
      if a = b then (List.lookup b l).map (fun _ => v) else List.lookup a l := by
  induction l with
  | nil => simp
  | cons p ps ih =>
    obtain ⟨k, w⟩ := p
    by_cases hk : k = b
    · subst hk
      simp only [List.map_cons, if_true, lookup_cons, ih]
      split <;> rfl
    · simp only [List.map_cons, hk, if_false, lookup_cons, ih]
      by_cases ha : a = k
      · simp [ha, hk]
      · simp [ha, Ne.symm hk]

theorem lookup_map_snd {α β γ} [DecidableEq α] (l : List (α × β)) (f : β → γ) (a : α) :
    List.lookup a (l.map (fun p => (p.1, f p.2))) = (List.lookup a l).map f := by
  induction l with
  | nil => rfl
  | cons p ps ih =>
    obtain ⟨k, v⟩ := p
    simp only [List.map_cons, lookup_cons, ih]
    split <;> rfl

/-- a single entry that holds the default reads like no entry -/
theorem getD_lookup_singleton {α β} [DecidableEq α] (a k : α) (d : β) : (List.lookup a [(k, d)]).getD d = d := by
  rw [lookup_cons]
  split <;> rfl

end PhreeqcVerif.Assoc

