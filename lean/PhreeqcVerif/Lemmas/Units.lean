import PhreeqcVerif.Model.MixAlg
import PhreeqcVerif.Lemmas.List
/-! Lemmas for `Model/Units.lean` and `Model/MixAlg.lean` (core tactics only), in that order: `convert_units` as a fold of
effects, amounts written in a unit, canonical unit names, the three readers of solution-level options; then the mixing algebra.
The models are folds over key-ordered maps; the lemmas describe one step through lookups (`get_insert`, `get_apply`,
`Map.get_addAt`) and carry an invariant or a relation between two folds from the steps to the whole (`List.foldlRecOn`,
`List.foldl_hom`, `List.Perm.foldl_eq'`). -/
namespace Rat

theorem add_right_comm (a b c : Rat) : a + b + c = a + c + b := by
  rw [Rat.add_assoc, Rat.add_comm b, Rat.add_assoc]

theorem mul_div_mul_right (x y k : Rat) (hk : k ≠ 0) : x * k / (y * k) = x / y := by
  rw [Rat.div_def, Rat.div_def, Rat.inv_mul_rev, Rat.mul_assoc, ← Rat.mul_assoc k, Rat.mul_inv_cancel k hk, Rat.one_mul]

end Rat

namespace PhreeqcVerif.Units
open Std

/-- lookup after `insert` with the test on the keys written `k = a`, for every key type whose order decides equality
(the name-keyed totals and component maps, the number-keyed MIX map) -/
@[simp] theorem get_insert {α β : Type} [Ord α] [TransOrd α] [LawfulEqOrd α] [DecidableEq α]
    (m : ExtTreeMap α β compare) (k a : α) (v : β) :
    (m.insert k v)[a]? = if k = a then some v else m[a]? := by
  simp [ExtTreeMap.getElem?_insert]

@[simp] theorem get_map (m : Totals) (f : Rat → Rat) (a : String) :
    (m.map (fun _ v => f v))[a]? = m[a]?.map f := by
  rw [ExtTreeMap.getElem?_map]

namespace Map
variable {α β : Type} [Ord α] [TransOrd α] [LawfulEqOrd α] [DecidableEq α]

theorem insert_comm (m : ExtTreeMap α β compare) (a b : α) (x y : β) (h : a ≠ b) :
    (m.insert a x).insert b y = (m.insert b y).insert a x := by
  apply ExtTreeMap.ext_getElem?
  intro k
  simp only [get_insert]
  grind

theorem insert_insert (m : ExtTreeMap α β compare) (a : α) (x y : β) :
    (m.insert a x).insert a y = m.insert a y := by
  apply ExtTreeMap.ext_getElem?
  intro k
  simp only [get_insert]
  grind

/-- `m[k] += v`, an absent key counting as 0: the body of `add_extensive`, `master->total += …` and `cxxMix::Add` alike -/
def addAt (m : ExtTreeMap α Rat compare) (k : α) (v : Rat) : ExtTreeMap α Rat compare := m.insert k (m[k]?.getD 0 + v)

theorem get_addAt (m : ExtTreeMap α Rat compare) (k a : α) (v : Rat) :
    (addAt m k v)[a]? = if k = a then some (m[k]?.getD 0 + v) else m[a]? := get_insert ..

theorem addAt_comm (m : ExtTreeMap α Rat compare) (a b : α) (x y : Rat) :
    addAt (addAt m a x) b y = addAt (addAt m b y) a x := by
  apply ExtTreeMap.ext_getElem?; intro k
  simp only [get_addAt]
  grind

theorem addAt_addAt (m : ExtTreeMap α Rat compare) (a : α) (x y : Rat) : addAt (addAt m a x) a y = addAt m a (x + y) := by
  apply ExtTreeMap.ext_getElem?; intro k
  simp only [get_addAt, if_true, Option.getD_some, Rat.add_assoc]
  split <;> rfl

end Map

theorem insert_comm (m : Totals) (a b : String) (x y : Rat) (h : a ≠ b) :
    (m.insert a x).insert b y = (m.insert b y).insert a x :=
  Map.insert_comm m a b x y h

theorem insert_insert (m : Totals) (a : String) (x y : Rat) :
    (m.insert a x).insert a y = m.insert a y :=
  Map.insert_insert m a x y

theorem map_insert (m : Totals) (f : Rat → Rat) (a : String) (x : Rat) :
    (m.insert a x).map (fun _ v => f v) = (m.map (fun _ v => f v)).insert a (f x) := by
  apply ExtTreeMap.ext_getElem?
  intro k
  simp only [get_map, get_insert]
  grind

/-! ### the loop of `convert_units` as a fold of effects -/

theorem St.ext' {s t : St} (h1 : s.sum = t.sum) (h2 : ∀ k : String, s.totals[k]? = t.totals[k]?)
    (h3 : s.err = t.err) : s = t := by
  obtain ⟨_, _, _⟩ := s; obtain ⟨_, _, _⟩ := t
  simp only at h1 h2 h3
  rw [h1, ExtTreeMap.ext_getElem? h2, h3]

@[simp] theorem apply_sum (st : St) (e : Effect) : (st.apply e).sum = st.sum + e.dsum := rfl
@[simp] theorem apply_err (st : St) (e : Effect) : (st.apply e).err = st.err + e.derr := rfl

theorem get_apply (st : St) (e : Effect) (k : String) :
    (st.apply e).totals[k]? =
      if e.name = k ∧ (e.touch = true ∨ e.value.isSome = true) then some (e.value.getD 0) else st.totals[k]? := by
  unfold St.apply
  by_cases h : e.name = k <;> cases e.touch <;> cases e.value <;> simp [h]

theorem apply_comm (st : St) (e f : Effect) (h : e.name ≠ f.name) :
    (st.apply e).apply f = (st.apply f).apply e := by
  apply St.ext'
  · exact Rat.add_right_comm ..
  · intro k; simp only [get_apply]; grind
  · exact Nat.add_right_comm ..

theorem get_foldl_apply (es : List Effect) (st : St) (k : String) (h : ∀ e ∈ es, e.name ≠ k) :
    (es.foldl St.apply st).totals[k]? = st.totals[k]? :=
  List.foldlRecOn es St.apply (motive := fun s => s.totals[k]? = st.totals[k]?) rfl fun _ hb e he => by
    rw [get_apply, if_neg fun hh => h e he hh.1, hb]

/-- what the totals held under a name that some effect touches is forgotten -/
theorem foldl_apply_congr (es : List Effect) (s t : St) (hs : s.sum = t.sum) (he : s.err = t.err)
    (ht : ∀ k : String, (∀ e ∈ es, e.touch = true → e.name ≠ k) → s.totals[k]? = t.totals[k]?) :
    es.foldl St.apply s = es.foldl St.apply t := by
  induction es generalizing s t with
  | nil => exact St.ext' hs (fun k => ht k (by simp)) he
  | cons e es ih =>
    refine ih _ _ (by simp [hs]) (by simp [he]) fun k hk => ?_
    rw [get_apply, get_apply]
    split
    · rfl
    · next hw =>
      refine ht k fun e' he' htouch => ?_
      rcases List.mem_cons.mp he' with rfl | he'
      · exact fun hn => hw ⟨hn, .inl htouch⟩
      · exact hk e' he' htouch

theorem loop_eq (p : Params) (t0 : Totals) (comps : List Comp) :
    loop p t0 comps = (comps.map (effect p.solUnit.den p.density p.elt)).foldl St.apply ⟨p.sum0, t0, 0⟩ := by
  rw [List.foldl_map]; rfl

theorem convertUnits_congr {p : Params} {t0 t0' : Totals} {l l' : List Comp} (h : loop p t0 l = loop p t0' l') :
    convertUnits p t0 l = convertUnits p t0' l' := by
  unfold convertUnits; rw [h]

/-- `effect` with the triple of `resolveGfw` taken apart by projections -/
theorem effect_eq (d : Den) (ρ : Rat) (elt : String → Option Rat) (c : Comp) : effect d ρ elt c =
    if c.minor then ⟨c.name, false, none, 0, 0, c.gfw⟩ else
    if c.name == "H(1)" || c.name == "E" then ⟨c.name, true, none, 0, 0, c.gfw⟩ else
    if c.conc ≤ 0 then ⟨c.name, true, none, 0, 0, c.gfw⟩ else
    if (resolveGfw elt c).2.2 then ⟨c.name, true, none, 0, (resolveGfw elt c).2.1, (resolveGfw elt c).1⟩ else
    let g := (resolveGfw elt c).1
    let m1 := (if d == .perL then c.conc * (1 / ρ) else c.conc) * c.unit.preFactor
    ⟨c.name, true, some (if c.unit.isGram && g ≠ 0 then m1 / g else m1),
      if c.unit.gramPerSolution then m1 else if c.unit.molPerSolution then m1 * g else 0, (resolveGfw elt c).2.1, g⟩ := rfl

@[simp] theorem effect_name (d : Den) (ρ : Rat) (elt : String → Option Rat) (c : Comp) : (effect d ρ elt c).name = c.name := by
  simp only [effect_eq, apply_ite Effect.name, ite_self]

theorem effect_touch (d : Den) (ρ : Rat) (elt : String → Option Rat) (c : Comp) (h : c.minor = false) :
    (effect d ρ elt c).touch = true := by
  simp only [effect_eq, h, apply_ite Effect.touch, ite_self, Bool.false_eq_true, if_false]

/-! ### amounts written in a unit -/

/-- the number that expresses `n` (mol per kg water / kg solution / litre) in unit `u`, for formula weight `g` -/
def amount (u : Unit) (g n : Rat) : Rat :=
  n / u.preFactor * (if u.isGram then g else 1)

theorem preFactor_pos (u : Unit) : 0 < u.preFactor := by
  unfold Unit.preFactor; cases u.pre <;> decide +kernel

theorem amount_pos (u : Unit) (g n : Rat) (hg : 0 < g) (hn : 0 < n) : 0 < amount u g n := by
  unfold amount
  have hp := preFactor_pos u
  have h1 : 0 < n / u.preFactor := by
    rw [Rat.div_def]; exact Rat.mul_pos hn (Rat.inv_pos.mpr hp)
  by_cases h : u.isGram <;> simp [h]
  · exact Rat.mul_pos h1 hg
  · exact h1

theorem resolveGfw_congr (elt : String → Option Rat) (c : Comp) (u : Unit) (x : Rat) :
    resolveGfw elt { c with unit := u, conc := x } = resolveGfw elt c := rfl

theorem resolveGfw_skip (elt : String → Option Rat) (c : Comp) (h : 0 < (resolveGfw elt c).1) :
    (resolveGfw elt c).2.2 = false := by
  unfold resolveGfw at h ⊢
  by_cases h1 : c.gfw ≤ 0 <;> simp only [h1, if_true, if_false] at h ⊢
  by_cases h2 : c.asName = "" <;> simp only [h2, ne_eq, not_true_eq_false, not_false_eq_true, if_true, if_false] at h ⊢
  cases h3 : c.masterGfw <;> simp only [h3] at h ⊢
  exact absurd h (Rat.not_lt.mpr h1)

/-- does the code add a concentration given in `u` to the solute mass: per litre and per kg solution, `eq/kgs` excepted -/
def Unit.solute (u : Unit) : Bool := u.gramPerSolution || u.molPerSolution

/-- what an ordinary component does when its amount `n` is written in unit `u`: of `u` only `u.solute` is left -/
theorem effect_amount (d : Den) (ρ : Rat) (elt : String → Option Rat) (c : Comp) (u : Unit) (n : Rat)
    (hminor : c.minor = false) (hname : (c.name == "H(1)" || c.name == "E") = false)
    (hg : 0 < (resolveGfw elt c).1) (hn : 0 < n) :
    effect d ρ elt { c with unit := u, conc := amount u (resolveGfw elt c).1 n } =
      ⟨c.name, true, some (if d == .perL then n * (1 / ρ) else n),
        if u.solute then (if d == .perL then n * (1 / ρ) else n) * (resolveGfw elt c).1 else 0,
        (resolveGfw elt c).2.1, (resolveGfw elt c).1⟩ := by
  have hpos : ¬ amount u (resolveGfw elt c).1 n ≤ 0 := Rat.not_le.mpr (amount_pos u _ n hg hn)
  simp only [effect_eq, resolveGfw_congr]
  simp only [hminor, hname, hpos, resolveGfw_skip elt c hg, Bool.false_eq_true, if_false]
  -- read back, the prefix cancels and the weight stays for gram units
  have hm : (if d == .perL then amount u (resolveGfw elt c).1 n * (1 / ρ) else amount u (resolveGfw elt c).1 n) * u.preFactor =
      (if d == .perL then n * (1 / ρ) else n) * (if u.isGram then (resolveGfw elt c).1 else 1) := by
    have := preFactor_pos u
    unfold amount
    split <;> grind
  rw [hm]
  unfold Unit.solute Unit.gramPerSolution Unit.molPerSolution Unit.isGram
  cases u.kind <;> simp [Rat.ne_of_gt hg, Rat.mul_div_cancel]

theorem Unit.solute_eq (u : Unit) (h : u.kind = .eq → u.den ≠ .perKgs) : u.solute = (u.den != .perKgw) := by
  unfold Unit.solute Unit.gramPerSolution Unit.molPerSolution
  revert h
  cases u.kind <;> cases u.den <;> decide

/-- the hypothesis on `c` and `n` is `Item.ok` of `Properties/C15.lean` -/
theorem effect_amount_congr (d : Den) (ρ : Rat) (elt : String → Option Rat) (c : Comp) (u v : Unit) (n : Rat)
    (hok : c.minor = true ∨ (c.name == "H(1)" || c.name == "E") = true ∨ (0 < (resolveGfw elt c).1 ∧ 0 < n))
    (h : u.solute = v.solute) :
    effect d ρ elt { c with unit := u, conc := amount u (resolveGfw elt c).1 n } =
      effect d ρ elt { c with unit := v, conc := amount v (resolveGfw elt c).1 n } := by
  by_cases hm : c.minor = true
  · simp [effect_eq, hm]
  by_cases hh : (c.name == "H(1)" || c.name == "E") = true
  · simp [effect_eq, hm, hh]
  obtain ⟨hg, hn⟩ := (hok.resolve_left hm).resolve_left hh
  simp only [Bool.not_eq_true] at hm hh
  rw [effect_amount d ρ elt c u n hm hh hg hn, effect_amount d ρ elt c v n hm hh hg hn, h]

/-! ### canonical unit names -/
open Txt

theorem Unit.forall_of_all {P : Unit → Prop} (h : ∀ u ∈ Unit.all, P u) (u : Unit) : P u :=
  -- `Unit.all` is the product of three lists, each with every constructor of its type
  h u <| List.mem_flatMap.mpr ⟨u.den, by cases u.den <;> decide, List.mem_flatMap.mpr ⟨u.kind, by cases u.kind <;> decide,
    List.mem_map.mpr ⟨u.pre, by cases u.pre <;> decide, rfl⟩⟩⟩

/-- the substring tests and the alkalinity rewrite that `check_units` makes after the table lookup, on the canonical names -/
theorem check_tests_agree : ∀ u : Unit,
    contains "Mol".toList u.str.toList = (u.kind == .mol) ∧ contains "eq".toList u.str.toList = (u.kind == .eq) ∧
    contains "/l".toList u.str.toList = (u.den == .perL) ∧ contains "/kgs".toList u.str.toList = (u.den == .perKgs) ∧
    contains "/kgw".toList u.str.toList = (u.den == .perKgw) ∧
    (u.kind = .mol → replaceFirst "Mol".toList "eq".toList u.str.toList = { u with kind := .eq }.str.toList) :=
  Unit.forall_of_all (by decide +kernel)

end PhreeqcVerif.Units

namespace PhreeqcVerif.Units.Sol
open Txt

/-! ### the three readers of solution-level options: the common option names come first in every option list, and a regular
value is applied alike in every context -/

theorem findOpt_append (exact : Bool) (tok : List Char) (l x : List String) (n : String)
    (h : findOpt exact tok l = some n) : findOpt exact tok (l ++ x) = some n := by
  induction l with
  | nil => simp [findOpt] at h
  | cons o os ih =>
    simp only [List.cons_append, findOpt] at h ⊢
    by_cases hc : optMatches exact tok o = true
    · simp only [hc, if_true] at h ⊢; exact h
    · simp only [hc, Bool.false_eq_true, if_false] at h ⊢; exact ih h

theorem dispatch_append (l x : List String) (toks : List (List Char)) (n : String)
    (h : dispatch l toks = some (some n)) : dispatch (l ++ x) toks = some (some n) := by
  unfold dispatch at h ⊢
  cases toks with
  | nil => simp at h
  | cons t ts =>
    simp only at h ⊢
    by_cases hd : t.head? = some '-'
    · simp only [hd, if_true, Option.some.injEq] at h ⊢
      exact findOpt_append _ _ _ _ _ h
    · simp only [hd, if_false, Option.map_eq_some_iff] at h ⊢
      obtain ⟨a, ha, hb⟩ := h
      exact ⟨a, findOpt_append _ _ _ _ _ ha, hb⟩

theorem applyOpt_ctx (c1 c2 : Ctx) (s : Settings) (o : Opt) (args : List (List Char)) (h : Regular o args) :
    applyOpt c1 s o args = applyOpt c2 s o args := by
  cases args with
  | nil => cases o <;> simp [Regular] at h
  | cons a r =>
    -- `applyOpt` looks at the context only for `dens` and `press`
    cases o <;> simp only [applyOpt]
    case dens =>
      simp only [Regular] at h
      obtain ⟨h1, h2⟩ := h
      obtain ⟨v, hv⟩ := Option.isSome_iff_exists.mp h1
      simp only [hv]
      rcases h2 with rfl | ⟨c, r', rfl, hc⟩
      · rfl
      · simp only
        rcases hc with hc | hc <;> simp [hc]
    case press =>
      simp only [Regular] at h
      obtain ⟨v, hv⟩ := Option.isSome_iff_exists.mp h
      simp only [hv]

/-- for the lines both accept, a SPREAD row reads a line as a SOLUTION block does -/
theorem stepLine_row_block (acc : Option Read) (l : List Char) (h : CommonOpt l ∨ ConstituentLine l) :
    stepLine .row acc l = stepLine .block acc l := by
  cases acc with
  | none => rfl
  | some r =>
    rcases h with ⟨n, hn, hr⟩ | ⟨h1, h2, ⟨t, ts, ht, hl, hdg⟩, hp⟩
    · have h1 : dispatch rowOpts (tokens l) = some (some n) := dispatch_append commonOpts _ _ _ hn
      have h2 : dispatch blockOpts (tokens l) = some (some n) := dispatch_append commonOpts _ _ _ hn
      have ea := applyOpt_ctx .row .block r.set _ _ hr
      simp only [List.drop_one] at ea
      simp [stepLine, h1, h2, ea]
    · obtain ⟨c, hc⟩ := Option.isSome_iff_exists.mp hp
      rw [ht] at h1 h2
      simp [stepLine, h1, h2, ht, hl, hdg, hc]

/-- a block-level option line of SOLUTION_SPREAD acts on the settings as the same line of a SOLUTION block -/
theorem stepLine_block_default (acc : Option Settings) (cs : List CompText) (l : List Char) (h : CommonOpt l) :
    stepLine .block (acc.map (⟨·, cs⟩)) l = (stepDefault acc l).map (⟨·, cs⟩) := by
  cases acc with
  | none => rfl
  | some s =>
    obtain ⟨n, hn, hr⟩ := h
    have h1 : dispatch defaultOpts (tokens l) = some (some n) := dispatch_append commonOpts _ _ _ hn
    have h2 : dispatch blockOpts (tokens l) = some (some n) := dispatch_append commonOpts _ _ _ hn
    have ea := applyOpt_ctx .block .dflt s _ _ hr
    simp only [List.drop_one] at ea
    simp [stepLine, stepDefault, h1, h2, ea]

/-! `CommonOpt` and `ConstituentLine` from one decidable conjunction each, so that a concrete line is settled by a single
evaluation -/

theorem CommonOpt.intro (l : List Char) (n : String)
    (h : dispatch commonOpts (tokens l) = some (some n) ∧ semOfName n ≠ .dens ∧ semOfName n ≠ .press ∧
      (tokens l).drop 1 ≠ []) : CommonOpt l := by
  refine ⟨n, h.1, ?_⟩
  cases hd : (tokens l).drop 1 with
  | nil => exact absurd hd h.2.2.2
  | cons a r => cases ho : semOfName n <;> simp_all [Regular]

theorem ConstituentLine.intro (l t : List Char) (ts : List (List Char))
    (h : dispatch blockOpts (tokens l) = none ∧ dispatch rowOpts (tokens l) = none ∧ tokens l = t :: ts ∧
      isLowerFirst t = false ∧ isDigitTok t = false ∧ (readCompLine l).isSome) : ConstituentLine l :=
  ⟨h.1, h.2.1, ⟨t, ts, h.2.2.1, h.2.2.2.1, h.2.2.2.2.1⟩, h.2.2.2.2.2⟩

theorem stepLine_none (ctx : Ctx) (ls : List (List Char)) : ls.foldl (stepLine ctx) none = none :=
  List.foldl_fixed_point (fun _ => rfl) ls

theorem stepDefault_none (ls : List (List Char)) : ls.foldl stepDefault none = none :=
  List.foldl_fixed_point (fun _ => rfl) ls

end PhreeqcVerif.Units.Sol

namespace PhreeqcVerif.MixAlg
open Std PhreeqcVerif.Units

/-- the model's `addAt` on totals is `Map.addAt` -/
theorem addAt_eq (m : Totals) (k : String) (v : Rat) : addAt m k v = Map.addAt m k v := rfl

def applyOps (m : Totals) (ops : List (String × Rat)) : Totals := ops.foldl (fun m kd => Map.addAt m kd.1 kd.2) m

theorem applyOps_cons (m : Totals) (o : String × Rat) (os : List (String × Rat)) :
    applyOps m (o :: os) = applyOps (Map.addAt m o.1 o.2) os := rfl

theorem applyOps_addAt (m : Totals) (k : String) (v : Rat) (ops : List (String × Rat)) :
    applyOps (Map.addAt m k v) ops = Map.addAt (applyOps m ops) k v :=
  List.foldl_hom (Map.addAt · k v) fun _ _ => Map.addAt_comm ..

theorem applyOps_comm (m : Totals) (o1 o2 : List (String × Rat)) :
    applyOps (applyOps m o1) o2 = applyOps (applyOps m o2) o1 :=
  (List.foldl_hom (applyOps · o2) fun _ _ => (applyOps_addAt ..).symm).symm

/-- the increments a solution's totals cause in the master totals -/
def entryOps (primary : String → Option String) (ext : Rat) (l : List (String × Rat)) : List (String × Rat) :=
  l.filterMap fun kv => (primary kv.1).map fun p => (p, kv.2 * ext)

/-- number of totals whose element has no primary master species -/
def nErr (primary : String → Option String) (l : List (String × Rat)) : Nat :=
  (l.filter fun kv => (primary kv.1).isNone).length

theorem foldl_addEntry (primary : String → Option String) (ext : Rat) (a : Acc) (l : List (String × Rat)) :
    l.foldl (addEntry primary ext) a =
      { a with totals := applyOps a.totals (entryOps primary ext l), err := a.err + nErr primary l } := by
  induction l generalizing a with
  | nil => rfl
  | cons kv l ih =>
    rw [List.foldl_cons, ih]
    unfold addEntry entryOps nErr
    cases h : primary kv.1 with
    | none => simp [h, Nat.add_assoc, Nat.add_comm 1]
    | some p => simp [h, applyOps_cons, addAt_eq]

theorem addSolution_eq (primary : String → Option String) (a : Acc) (s : Sol) (ext int : Rat) :
    addSolution primary a s ext int =
      { tc := a.tc + s.tc * int, ph := a.ph + s.ph * int, pe := a.pe + s.pe * int, mu := a.mu + s.mu * int,
        ah2o := a.ah2o + s.ah2o * int, density := a.density + s.density * int, patm := a.patm + s.patm * int,
        totalH := a.totalH + s.totalH * ext, totalO := a.totalO + s.totalO * ext, cb := a.cb + s.cb * ext,
        water := a.water + s.water * ext,
        totals := applyOps a.totals (entryOps primary ext s.totals.toList),
        err := a.err + nErr primary s.totals.toList } := by
  unfold addSolution
  rw [foldl_addEntry]

theorem addSolution_comm (primary : String → Option String) (a : Acc) (s t : Sol) (e1 i1 e2 i2 : Rat) :
    addSolution primary (addSolution primary a s e1 i1) t e2 i2 =
      addSolution primary (addSolution primary a t e2 i2) s e1 i1 := by
  simp only [addSolution_eq, Rat.add_right_comm _ (_ * e1), Rat.add_right_comm _ (_ * i1),
    Nat.add_right_comm _ (nErr primary s.totals.toList), applyOps_comm _ (entryOps primary e1 _)]

theorem addSolution_err (primary : String → Option String) (a : Acc) (s : Sol) (e i : Rat) (n : Nat) :
    addSolution primary { a with err := a.err + n } s e i =
      { addSolution primary a s e i with err := (addSolution primary a s e i).err + n } := by
  simp only [addSolution_eq, Nat.add_right_comm _ n]

theorem mixAdd_eq (m : MixComps) (n : Int) (f : Rat) : mixAdd m n f = Map.addAt m n f := by
  unfold mixAdd Map.addAt
  cases m[n]? <;> simp [Rat.zero_add]

/-! ### `add_mix` as two folds

The first loop folds `sumsStep` into the sums, the second folds `mixStep` (which is given the sums and the number of
entries) into the accumulator. Every invariance of `add_mix` is a relation between two such pairs of folds that each step
preserves, lifted by `List.foldl_hom` or `List.Perm.foldl_eq'`. -/

def sumsStep (store : Int → Option Sol) (s : Sums) (nf : Int × Rat) : Sums :=
  match store nf.1 with
  | some sol => ⟨s.fw + nf.2 * sol.water, if (0 : Rat) < nf.2 then s.pw + nf.2 * sol.water else s.pw,
                 if (0 : Rat) < nf.2 then s.npos + 1 else s.npos⟩
  | none => s

theorem sums_eq (store : Int → Option Sol) (l : List (Int × Rat)) : sums store l = l.foldl (sumsStep store) ⟨0, 0, 0⟩ := rfl

def mixStep (primary : String → Option String) (store : Int → Option Sol) (sm : Sums) (size : Nat) (acc : Acc)
    (nf : Int × Rat) : Acc :=
  match store nf.1 with
  | some sol => addSolution primary acc sol nf.2 (intensiveWater sm size nf.2 sol.water)
  | none => { acc with err := acc.err + 2 }

theorem addMix_eq (primary : String → Option String) (store : Int → Option Sol) (comps : List (Int × Rat)) (a : Acc) :
    addMix primary store comps a = comps.foldl (mixStep primary store (sums store comps) comps.length) a := by
  unfold addMix
  split
  · next h => rw [List.isEmpty_iff.mp h]; rfl
  · rfl

theorem mixStep_comm (primary : String → Option String) (store : Int → Option Sol) (sm : Sums) (n : Nat) (acc : Acc)
    (x y : Int × Rat) :
    mixStep primary store sm n (mixStep primary store sm n acc x) y =
      mixStep primary store sm n (mixStep primary store sm n acc y) x := by
  unfold mixStep
  cases hx : store x.1 <;> cases hy : store y.1 <;> simp only
  · rw [addSolution_err]
  · rw [addSolution_err]
  · exact addSolution_comm ..

theorem sums_perm (store : Int → Option Sol) (l₁ l₂ : List (Int × Rat)) (hp : l₁.Perm l₂) :
    sums store l₁ = sums store l₂ := by
  rw [sums_eq, sums_eq]
  apply hp.foldl_eq'
  intro x _ y _ s
  unfold sumsStep
  cases store x.1 <;> cases store y.1 <;> simp only
  split <;> split <;> simp only [Rat.add_right_comm _ (x.2 * _)]

theorem applyOps_entryOps_add (primary : String → Option String) (a b : Rat) (l : List (String × Rat)) (m : Totals) :
    applyOps (applyOps m (entryOps primary a l)) (entryOps primary b l) = applyOps m (entryOps primary (a + b) l) := by
  induction l generalizing m with
  | nil => rfl
  | cons kv l ih =>
    simp only [entryOps, List.filterMap_cons] at ih ⊢
    cases primary kv.1 with
    | none => exact ih m
    | some p =>
      simp only [Option.map_some, applyOps_cons]
      rw [← applyOps_addAt, Map.addAt_addAt, ← Rat.mul_add]
      exact ih _

/-! #### one more positive entry (two entries for one solution against their sum) -/

def Sums.bump (s : Sums) : Sums := { s with npos := s.npos + 1 }

theorem sumsStep_bump (store : Int → Option Sol) (s : Sums) (x : Int × Rat) :
    sumsStep store s.bump x = (sumsStep store s x).bump := by
  unfold sumsStep Sums.bump
  cases store x.1 with
  | none => rfl
  | some sol => simp only; split <;> rfl

theorem intensiveWater_bump (sm : Sums) (n : Nat) (f w : Rat) :
    intensiveWater sm.bump (n + 1) f w = intensiveWater sm n f w := by
  simp only [intensiveWater, Sums.bump, Nat.add_lt_add_iff_right]

theorem intensiveWater_add (sm : Sums) (n : Nat) (a b w : Rat) (ha : 0 < a) (hb : 0 < b) :
    intensiveWater sm n a w + intensiveWater sm n b w = intensiveWater sm n (a + b) w := by
  have hab : 0 < a + b := by grind
  simp only [intensiveWater, ha, hb, hab, and_true, Rat.div_def]
  split <;> rw [← Rat.add_mul, ← Rat.add_mul]

/-! #### water and extensive amounts of every solution times `α`, every fraction times `β` -/

def Sums.scale (s : Sums) (k : Rat) : Sums := ⟨s.fw * k, s.pw * k, s.npos⟩

theorem sumsStep_scale (store : Int → Option Sol) (α β : Rat) (hβ : 0 < β) (s : Sums) (x : Int × Rat) :
    sumsStep (fun n => (store n).map (·.scale α)) (s.scale (α * β)) (x.1, x.2 * β) = (sumsStep store s x).scale (α * β) := by
  simp only [sumsStep, Sums.scale]
  cases store x.1 with
  | none => rfl
  | some sol =>
    simp only [Option.map_some, Sol.scale, Rat.mul_pos_iff_of_pos_right hβ]
    split <;> simp only [Sums.mk.injEq] <;> grind

theorem sums_scale (store : Int → Option Sol) (α β : Rat) (hβ : 0 < β) (comps : List (Int × Rat)) :
    sums (fun n => (store n).map (·.scale α)) (comps.map fun nf => (nf.1, nf.2 * β)) = (sums store comps).scale (α * β) := by
  rw [sums_eq, sums_eq, List.foldl_map, ← List.foldl_hom (Sums.scale · (α * β))
    (g₂ := fun s x => sumsStep _ s (x.1, x.2 * β)) (sumsStep_scale store α β hβ)]
  simp [Sums.scale]

theorem intensiveWater_scale (sm : Sums) (n : Nat) (f w α β : Rat) (hα : α ≠ 0) (hβ : 0 < β) :
    intensiveWater (sm.scale (α * β)) n (f * β) (w * α) = intensiveWater sm n f w := by
  have e : f * β * (w * α) = f * w * (α * β) := by grind
  have hk : α * β ≠ 0 := by grind
  simp only [intensiveWater, Sums.scale, Rat.mul_pos_iff_of_pos_right hβ, e, Rat.mul_div_mul_right _ _ _ hk]

theorem addAt_scale (m : Totals) (p : String) (v k : Rat) :
    Map.addAt (multiplyTotals m k) p (v * k) = multiplyTotals (Map.addAt m p v) k := by
  unfold multiplyTotals
  apply ExtTreeMap.ext_getElem?; intro a
  simp only [Map.get_addAt, get_map]
  split
  · cases m[p]? <;> simp <;> grind
  · rfl

theorem applyOps_scale (m : Totals) (k : Rat) (ops : List (String × Rat)) :
    applyOps (multiplyTotals m k) (ops.map fun pv => (pv.1, pv.2 * k)) = multiplyTotals (applyOps m ops) k := by
  rw [applyOps, List.foldl_map]
  exact List.foldl_hom (multiplyTotals · k) fun _ _ => addAt_scale ..

theorem toList_scale (m : Totals) (k : Rat) :
    (multiplyTotals m k).toList = m.toList.map fun pv => (pv.1, pv.2 * k) := by
  unfold multiplyTotals; rw [ExtTreeMap.toList_map]

theorem entryOps_scale (primary : String → Option String) (f α β : Rat) (l : List (String × Rat)) :
    entryOps primary (f * β) (l.map fun pv => (pv.1, pv.2 * α)) =
      (entryOps primary f l).map fun pv => (pv.1, pv.2 * (α * β)) := by
  unfold entryOps
  rw [List.filterMap_map, List.map_filterMap]
  congr 1; funext kv
  simp only [Function.comp, Option.map_map]
  congr 1; funext p
  simp only [Function.comp, Prod.mk.injEq, true_and]
  grind

theorem nErr_scale (primary : String → Option String) (k : Rat) (l : List (String × Rat)) :
    nErr primary (l.map fun pv => (pv.1, pv.2 * k)) = nErr primary l := by
  unfold nErr
  rw [List.filter_map, List.length_map]; rfl

theorem addSolution_scale (primary : String → Option String) (a : Acc) (s : Sol) (f i α β : Rat) :
    addSolution primary (a.scale (α * β)) (s.scale α) (f * β) i = (addSolution primary a s f i).scale (α * β) := by
  simp only [addSolution_eq, Acc.scale, Sol.scale, toList_scale, entryOps_scale, applyOps_scale, nErr_scale, Acc.mk.injEq]
  grind

theorem mixStep_scale (primary : String → Option String) (store : Int → Option Sol) (sm : Sums) (n : Nat) (α β : Rat)
    (hα : α ≠ 0) (hβ : 0 < β) (acc : Acc) (x : Int × Rat) :
    mixStep primary (fun n => (store n).map (·.scale α)) (sm.scale (α * β)) n (acc.scale (α * β)) (x.1, x.2 * β) =
      (mixStep primary store sm n acc x).scale (α * β) := by
  simp only [mixStep]
  cases store x.1 with
  | none => rfl
  | some sol =>
    simp only [Option.map_some]
    rw [← addSolution_scale]
    congr 1
    exact intensiveWater_scale sm n x.2 sol.water α β hα hβ

/-- Water mass and all extensive amounts of every mixed solution times `α ≠ 0`, every mixing fraction times `β > 0`:
`add_mix` yields the same intensive state and every extensive result times `α * β`. -/
theorem mix_scaling (primary : String → Option String) (store : Int → Option Sol) (comps : List (Int × Rat))
    (a : Acc) (α β : Rat) (hα : α ≠ 0) (hβ : 0 < β) :
    addMix primary (fun n => (store n).map (·.scale α)) (comps.map fun nf => (nf.1, nf.2 * β)) (a.scale (α * β)) =
      (addMix primary store comps a).scale (α * β) := by
  rw [addMix_eq, addMix_eq, sums_scale store α β hβ, List.length_map, List.foldl_map]
  exact List.foldl_hom (Acc.scale · (α * β)) fun acc x => mixStep_scale primary store _ _ α β hα hβ acc x

theorem multiplyTotals_one (m : Totals) : multiplyTotals m 1 = m := by
  apply ExtTreeMap.ext_getElem?; intro k
  simp only [multiplyTotals, get_map, Rat.mul_one, Option.map_id']

theorem Sol.scale_one (s : Sol) : s.scale 1 = s := by
  simp only [Sol.scale, Rat.mul_one, multiplyTotals_one]

end PhreeqcVerif.MixAlg
