import PhreeqcVerif.Model.Assemblage
import PhreeqcVerif.Lemmas.NumOps
import Mathlib.Tactic.Ring
import Mathlib.Algebra.Order.Field.Basic
import Mathlib.Algebra.Order.Field.Rat
/-! Lemmas about `Model/Assemblage.lean` on which `Properties/C03.lean` rests.

Over `ratOps f` a literal `lit q` is `q`; since `lit` also sits inside the `Decidable` instances of the model's tests,
unfold with `dsimp +instances only [‹def›, rat_lit]` (plain `simp only [rat_lit]` leaves the instances behind and
`decide_eq_true_eq`, `split_ifs` then fail to match).

`Model/Surface.lean` declares the same comparisons and a `runModel` of the same shape in its own namespace;
`Lemmas/Surface.lean` has the sibling lemmas under the same names (`runModel_exit`, `gate_rows`, `absGt_eq_false`,
`absLt_eq_true`), proved without Mathlib. -/
set_option linter.style.haveILetI false
namespace PhreeqcVerif.Assemblage
open NumOps

/-! ## `model()`: what holds in the state it returns -/

section generic
variable {α : Type} [NumOps α] [∀ a b : α, Decidable (a < b)] [∀ a b : α, Decidable (a ≤ b)]

/-- What is known when `model()` returns: an invariant of the rows that the loop body preserves still holds, and the
state was accepted by `residuals` and by `check_residuals`. -/
theorem runModel_exit (step : State α → State α) (itmax n : Nat) (s s' : State α) (Inv : List (Row α) → Prop)
    (hstep : ∀ t, Inv t.rows → Inv (step t).rows) (hi : Inv s.rows) (h : runModel step itmax n s = some s') :
    Inv s'.rows ∧ converged s' = true ∧ s'.removeUnstable = false ∧ checkResiduals s' = (false, false) := by
  fun_induction runModel step itmax n s with
  | case1 | case2 | case5 => cases h
  | case3 _ _ _ _ _ _ ih => exact ih hi h
  | case4 _ s hc _ h1 h2 =>
    cases h
    rw [Bool.and_eq_true, Bool.not_eq_eq_eq_not, Bool.not_true] at hc
    exact ⟨hi, hc.1, hc.2, Prod.ext (eq_false_of_ne_true h1) (eq_false_of_ne_true h2)⟩
  | case6 _ _ _ _ _ _ ih => exact ih (hstep _ hi) h

theorem gate_rows (step : State α → State α) (itmax n : Nat) (s s' : State α)
    (h : runModel step itmax n s = some s') :
    ∀ r ∈ s'.rows, r.fails s'.env s'.iterations = false ∧ r.check s'.env = (false, false) := by
  obtain ⟨-, hc, -, hk⟩ := runModel_exit step itmax n s s' (fun _ => True) (fun _ _ => trivial) trivial h
  intro r hr
  have h1 := List.all_eq_true.1 (Bool.and_eq_true_iff.1 hc).2 r hr
  have hk' := Prod.ext_iff.1 hk
  have h2 := List.any_eq_false.1 (Bool.or_eq_false_iff.1 hk'.1).2 r hr
  have h3 := List.any_eq_false.1 hk'.2 r hr
  exact ⟨by simpa using h1, Prod.ext (by simpa using h2) (by simpa using h3)⟩

end generic

/-! ## the tolerance tests on `Rat` -/

theorem absGt_eq_false (f : TransFns Rat) (x t : Rat) : letI := ratOps f; absGt x t = false ↔ -t ≤ x ∧ x ≤ t := by
  simp only [absGt, Bool.or_eq_false_iff, decide_eq_false_iff_not, not_lt]
  exact ⟨fun h => ⟨neg_le.1 h.2, h.1⟩, fun h => ⟨h.2, neg_le.2 h.1⟩⟩

theorem absLt_eq_true (f : TransFns Rat) (x t : Rat) : letI := ratOps f; absLt x t = true ↔ -t < x ∧ x < t := by
  simp only [absLt, Bool.and_eq_true, decide_eq_true_eq]
  exact ⟨fun h => ⟨neg_lt.1 h.2, h.1⟩, fun h => ⟨h.2, neg_lt.2 h.1⟩⟩

theorem absv_eq_abs (f : TransFns Rat) (x : Rat) : letI := ratOps f; absv x = |x| := by
  unfold absv
  split_ifs with h
  · exact (abs_of_neg h).symm
  · exact (abs_of_nonneg (not_lt.1 h)).symm

/-- from a bound `t` on a residual `x·L` (natural-log units, `L = ln 10`) to the bound `ε ≥ t/L` on `x` (log10 units) -/
theorem le_of_mul_le {x t ε L : Rat} (hL : 0 < L) (ht : t ≤ ε * L) (h : x * L ≤ t) : x ≤ ε :=
  le_of_mul_le_mul_right (h.trans ht) hL

theorem neg_le_of_le_mul {x t ε L : Rat} (hL : 0 < L) (ht : t ≤ ε * L) (h : -t ≤ x * L) : -x ≤ ε :=
  le_of_mul_le hL ht ((neg_mul x L).trans_le (neg_le.1 h))

/-! ## `reset()`: the common factor keeps every pure phase within its bounds -/

/-- a demand `x` within the room `r` stays within `F·r` for every factor `F ≥ 1` -/
theorem le_factor_mul {x r F : Rat} (hr : 0 ≤ r) (hF : 1 ≤ F) (h : x ≤ r) : x ≤ F * r :=
  h.trans (le_mul_of_one_le_left hr hF)

/-- raising the factor to `x / r` brings the demand `x` within `F·r` -/
theorem le_max_div_mul {x r : Rat} (F : Rat) (hr : 0 < r) : x ≤ max F (x / r) * r :=
  calc x = x / r * r := (div_mul_cancel₀ x hr.ne').symm
    _ ≤ max F (x / r) * r := mul_le_mul_of_nonneg_right (le_max_right _ _) hr.le

theorem sub_le_of_neg_le_sub {a b x : Rat} (h : -x ≤ b - a) : a - x ≤ b :=
  sub_le_iff_le_add.2 (neg_le_sub_iff_le_add.1 h)

/-- bounds that `reset()` maintains for a PP unknown -/
def Bounds (u : PP Rat) : Prop := 0 ≤ u.moles ∧ (u.dissolveOnly = true → u.moles ≤ u.initial)

/-- what the scan of `reset()` guarantees for a revised delta `d` under the common factor `F`: dissolution stays within
`F·moles`, precipitation of a dissolve_only phase within `F·(initial − moles)`; dividing by `F` restores `Bounds` -/
def Good (F : Rat) (u : PP Rat) (d : Rat) : Prop :=
  d ≤ F * u.moles ∧ (u.dissolveOnly = true → -d ≤ F * (u.initial - u.moles))

theorem Good.mono {F G : Rat} {u : PP Rat} {d : Rat} (hb : Bounds u) (hFG : F ≤ G) (h : Good F u d) : Good G u d :=
  ⟨h.1.trans (mul_le_mul_of_nonneg_right hFG hb.1),
   fun hd => (h.2 hd).trans (mul_le_mul_of_nonneg_right hFG (sub_nonneg.2 (hb.2 hd)))⟩

theorem scanDissolve_spec (f : TransFns Rat) (u : PP Rat) (d0 F : Rat) (hb : Bounds u) (hF : 1 ≤ F) :
    letI := ratOps f
    F ≤ (scanDissolve u d0 F).2 ∧
      (u.dissolveOnly = true → -(scanDissolve u d0 F).1 ≤ (scanDissolve u d0 F).2 * (u.initial - u.moles)) := by
  dsimp +instances only [scanDissolve, rat_lit]
  simp only [Bool.and_eq_true, decide_eq_true_eq, ← max_def_lt, absv_eq_abs]
  split_ifs with h1 h2
  · have hr : 0 < u.initial - u.moles := h2.resolve_left (sub_nonneg.2 (hb.2 h1.1.1)).not_gt
    have hq : d0 / (u.initial - u.moles) < 0 := div_neg_of_neg_of_pos h1.1.2 hr
    refine ⟨le_max_left _ _, fun _ => ?_⟩
    rw [abs_of_neg hq, ← neg_div]
    exact le_max_div_mul F hr
  · exact ⟨le_rfl, fun hd => neg_zero.trans_le (mul_nonneg (zero_le_one.trans hF) (sub_nonneg.2 (hb.2 hd)))⟩
  · refine ⟨le_rfl, fun hd => ?_⟩
    have hr := sub_nonneg.2 (hb.2 hd)
    exact le_factor_mul hr hF (not_lt.1 fun h => h1 ⟨⟨hd, neg_pos.1 (hr.trans_lt h)⟩, h⟩)

theorem scanRemove_spec (f : TransFns Rat) (u : PP Rat) (d1 F : Rat) (hb : Bounds u) (hF : 1 ≤ F) :
    letI := ratOps f
    F ≤ (scanRemove u d1 F).2 ∧ ((scanRemove u d1 F).1 = d1 ∨ (scanRemove u d1 F).1 = 0) ∧
      (scanRemove u d1 F).1 ≤ (scanRemove u d1 F).2 * u.moles := by
  dsimp +instances only [scanRemove, rat_lit]
  simp only [Bool.and_eq_true, decide_eq_true_eq, ← max_def_lt]
  split_ifs with h1 h2
  · exact ⟨le_max_left _ _, .inl rfl, le_max_div_mul F h1.1⟩
  · exact ⟨le_rfl, .inr rfl, mul_nonneg (zero_le_one.trans hF) hb.1⟩
  · refine ⟨le_rfl, .inl rfl, le_factor_mul hb.1 hF (not_lt.1 fun h => ?_)⟩
    by_cases c : 0 < u.moles
    · exact h1 ⟨c, h⟩
    · exact h2 ⟨hb.1.trans_lt h, not_lt.1 c⟩

theorem resetScan_spec (f : TransFns Rat) (u : PP Rat) (d F : Rat) (hb : Bounds u) (hF : 1 ≤ F) :
    letI := ratOps f
    F ≤ (resetScan u d F).2 ∧ Good (resetScan u d F).2 u (resetScan u d F).1 := by
  letI := ratOps f
  obtain ⟨h1, h1d⟩ := scanDissolve_spec f u (clampDelta d) F hb hF
  obtain ⟨h2, h2d, h2m⟩ := scanRemove_spec f u _ _ hb (hF.trans h1)
  refine ⟨h1.trans h2, h2m, fun hd => ?_⟩
  have hr := sub_nonneg.2 (hb.2 hd)
  rcases h2d with h | h
  · exact h ▸ (h1d hd).trans (mul_le_mul_of_nonneg_right h2 hr)
  · exact h ▸ neg_zero.trans_le (mul_nonneg (zero_le_one.trans (hF.trans (h1.trans h2))) hr)

theorem resetScanAll_spec (f : TransFns Rat) (us : List (PP Rat × Rat)) (F : Rat)
    (hb : ∀ p ∈ us, Bounds p.1) (hF : 1 ≤ F) :
    letI := ratOps f
    F ≤ (resetScanAll us F).2 ∧
      ∀ q ∈ us.zip (resetScanAll us F).1, Good (resetScanAll us F).2 q.1.1 q.2 := by
  induction us generalizing F with
  | nil => exact ⟨le_rfl, fun _ h => nomatch h⟩
  | cons p rest ih =>
    have hbu := hb p List.mem_cons_self
    obtain ⟨h1, hg⟩ := resetScan_spec f p.1 p.2 F hbu hF
    obtain ⟨h2, ih⟩ := ih _ (fun q hq => hb q (List.mem_cons_of_mem _ hq)) (hF.trans h1)
    refine ⟨h1.trans h2, fun q hq => ?_⟩
    rcases List.mem_cons.1 hq with rfl | hq
    · exact hg.mono hbu h2
    · exact ih q hq

/-- the amount `reset()` stores is `moles − delta`, snapped to `0` or (dissolve_only) to the initial amount -/
theorem resetApply_moles (f : TransFns Rat) (e : Env Rat) (u : PP Rat) (δ : Rat) :
    letI := ratOps f
    (resetApply e u δ).moles = u.moles - δ ∨ (resetApply e u δ).moles = 0 ∨
      (u.dissolveOnly = true ∧ (resetApply e u δ).moles = u.initial) := by
  dsimp +instances only [resetApply, rat_lit]
  split_ifs with h1 h2 h2
  · exact .inr (.inr ⟨(Bool.and_eq_true_iff.1 h2).1, rfl⟩)
  · exact .inr (.inl rfl)
  · exact .inr (.inr ⟨(Bool.and_eq_true_iff.1 h2).1, rfl⟩)
  · exact .inl rfl

theorem resetApply_bounds (f : TransFns Rat) (e : Env Rat) (u : PP Rat) (d F : Rat) (hb : Bounds u) (hF : 1 ≤ F)
    (hg : Good F u d) :
    letI := ratOps f
    Bounds (resetApply e u (d / F)) := by
  letI := ratOps f
  have hFp : 0 < F := zero_lt_one.trans_le hF
  have hlow : 0 ≤ u.moles - d / F := sub_nonneg.2 ((div_le_iff₀' hFp).2 hg.1)
  have hup (hd : u.dissolveOnly = true) : u.moles - d / F ≤ u.initial :=
    sub_le_of_neg_le_sub ((neg_div F d).symm.trans_le ((div_le_iff₀' hFp).2 (hg.2 hd)))
  show 0 ≤ (resetApply e u (d / F)).moles ∧ (u.dissolveOnly = true → (resetApply e u (d / F)).moles ≤ u.initial)
  rcases resetApply_moles f e u (d / F) with h | h | ⟨hd, h⟩ <;> rw [h]
  exacts [⟨hlow, hup⟩, ⟨le_rfl, fun hd => hb.1.trans (hb.2 hd)⟩, ⟨hb.1.trans (hb.2 hd), fun _ => le_rfl⟩]

/-! ## `ineq()`: the inequality rows of a pure phase -/

/-- the rows of a pure phase whose column `ineq()` does not zero: `x_i ≤ moles` when present, `−x_i ≤ initial − moles`
for dissolve_only -/
theorem ppIneqRows_live (f : TransFns Rat) (i : Nat) (u : IUnk Rat) :
    letI := ratOps f
    u.phaseIn = true → ppIdle u = false → ppBlocked u = false →
    ppIneqRows i u = (if u.moles ≤ 0 then [] else [IRow.unit i i 1 u.moles]) ++
      (if u.dissolveOnly = true then [IRow.unit i i (-1) (u.initial - u.moles)] else []) := by
  intro hin hidle hblk
  dsimp +instances only [ppIneqRows, rat_lit]
  simp only [hin, hidle, hblk, Bool.not_true, Bool.false_eq_true, if_false]
  split_ifs <;> rfl

/-! ## solid solutions: `sumL` and the total `calc_ss_fractions` accumulates -/

theorem sumL_map_div (f : TransFns Rat) (ns : List Rat) (t : Rat) :
    letI := ratOps f
    sumL (ns.map fun n => n / t) = sumL ns / t := by
  letI := ratOps f
  induction ns with
  | nil => exact (zero_div t).symm
  | cons n rest ih => rw [List.map_cons, sumL, ih, sumL, add_div]

theorem foldl_add_eq (f : TransFns Rat) (ns : List Rat) (acc : Rat) :
    letI := ratOps f
    ns.foldl (fun acc n => acc + n) acc = acc + sumL ns := by
  letI := ratOps f
  induction ns generalizing acc with
  | nil => exact (add_zero acc).symm
  | cons n rest ih => rw [List.foldl_cons, ih, sumL, add_assoc]

theorem ssTotal_eq (f : TransFns Rat) (ns : List Rat) :
    letI := ratOps f
    ssTotal ns = sumL ns :=
  (foldl_add_eq f ns 0).trans (zero_add _)

theorem sumL_nonneg (f : TransFns Rat) (ns : List Rat) (hp : ∀ n ∈ ns, 0 ≤ n) :
    letI := ratOps f
    0 ≤ sumL ns := by
  induction ns with
  | nil => exact le_rfl
  | cons n rest ih =>
    exact add_nonneg (hp n List.mem_cons_self) (ih fun m hm => hp m (List.mem_cons_of_mem _ hm))

theorem sumL_pos (f : TransFns Rat) (ns : List Rat) (hne : ns ≠ []) (hp : ∀ n ∈ ns, 0 < n) :
    letI := ratOps f
    0 < sumL ns := by
  obtain ⟨n, rest, rfl⟩ := List.exists_cons_of_ne_nil hne
  exact add_pos_of_pos_of_nonneg (hp n List.mem_cons_self)
    (sumL_nonneg f rest fun m hm => (hp m (List.mem_cons_of_mem _ hm)).le)

end PhreeqcVerif.Assemblage
