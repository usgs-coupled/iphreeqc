import PhreeqcVerif.Model.KinTime
import Mathlib.Tactic.SplitIfs
/-! Lemmas for Properties/C12.lean about the time bookkeeping: `currentStep` by its equations, and the invariant of the
`CVStep` hook. -/
namespace PhreeqcVerif.KinTime

section currentStep
variable {α : Type} [ops : NumOps α] (ofNat : Nat → α)

/-! With the list non-empty and the two flags given, `currentStep` reduces to its innermost `if`; each lemma says which
branch is taken. -/

/-- `-steps s0 in n steps`: the `i`-th of the `n` steps, as an increment … -/
theorem currentStep_equal_incr (s0 : α) (rest : List α) {n i : Nat} (hi : i ≤ n) :
    currentStep ofNat (s0 :: rest) n true true i = s0 / ofNat n :=
  if_neg (Nat.not_lt.mpr hi)

/-- … and as a cumulative time -/
theorem currentStep_equal_cum (s0 : α) (rest : List α) {n i : Nat} (hi : i ≤ n) :
    currentStep ofNat (s0 :: rest) n true false i = ofNat i * s0 / ofNat n :=
  if_neg (Nat.not_lt.mpr hi)

theorem currentStep_list (steps : List α) (count : Nat) (incr : Bool) {i : Nat} (hi : i < steps.length) :
    currentStep ofNat steps count false incr (i + 1) = steps[i] := by
  cases steps with
  | nil => cases hi
  | cons s0 t => cases incr <;> exact (if_neg (Nat.not_lt.mpr hi)).trans (List.getElem_eq_getD s0).symm

end currentStep

/-! ### The hook of `CVStep` when it stores `zn[0]` -/

/-- the current pair and the re-start pair are accepted (time, solution) pairs -/
def CvInv (s : Cv) : Prop := (s.tn, s.zn0) ∈ s.accepted ∧ (s.lastT, s.lastY) ∈ s.accepted

theorem cvAttempt_inv (s : Cv) (a : Rat × Rat × Bool) (h : CvInv s) : CvInv (cvAttempt 0 s a).1 := by
  unfold cvAttempt
  simp only [↓reduceIte]
  split_ifs
  · exact ⟨List.mem_cons_self, List.mem_cons_of_mem _ h.1⟩
  · exact ⟨h.1, h.1⟩

theorem cvStep_inv (s : Cv) (as : List (Rat × Rat × Bool)) (h : CvInv s) : CvInv (cvStep 0 s as) := by
  induction as generalizing s with
  | nil => exact h
  | cons a rest ih =>
    unfold cvStep
    dsimp only
    split_ifs
    · exact cvAttempt_inv s a h
    · exact ih _ (cvAttempt_inv s a h)

theorem cvCall_inv (s : Cv) (steps : List (List (Rat × Rat × Bool))) (h : CvInv s) : CvInv (cvCall 0 s steps) :=
  List.foldlRecOn steps (cvStep 0) h fun s hs st _ => cvStep_inv s st hs

end PhreeqcVerif.KinTime
