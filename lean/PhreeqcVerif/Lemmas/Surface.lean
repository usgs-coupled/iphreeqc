import PhreeqcVerif.Model.Surface
import PhreeqcVerif.Lemmas.NumOps
/-! What `Properties/C20.lean` rests on: the model's constants, comparisons and read-outs at the instance `ratOps f`, the
convergence gate, and the specifications the Donnan and site-history theorems are stated with.

Core Lean only (no Mathlib), so order facts carry core's `Rat.` names and field identities are closed by `grind`, which is
handed the non-zero denominators as hypotheses.  `Model/Assemblage.lean` declares the same comparisons and a `runModel` of the
same shape in its own namespace; `Lemmas/Assemblage.lean` has the sibling lemmas under the same names (`runModel_exit`,
`gate_rows`, `absGt_eq_false`, `absLt_eq_true`), proved with Mathlib. -/
namespace PhreeqcVerif.Surface
open NumOps

/-! ## constants -/

theorem F_C_MOL_eq (f : TransFns Rat) : letI := ratOps f; (F_C_MOL : Rat) = 964935 / 10 := rfl
theorem F_KJ_V_EQ_eq (f : TransFns Rat) : letI := ratOps f; (F_KJ_V_EQ : Rat) = 964935 / 10000 := rfl
theorem R_KJ_DEG_MOL_eq (f : TransFns Rat) : letI := ratOps f; (R_KJ_DEG_MOL : Rat) = 83147 / 10000000 := rfl
theorem EPSILON_ZERO_eq (f : TransFns Rat) : letI := ratOps f; (EPSILON_ZERO : Rat) = 8854 / 1000000000000000 := rfl

theorem F_C_MOL_ne_zero (f : TransFns Rat) :
    letI := ratOps f
    (F_C_MOL : Rat) ≠ 0 := by
  rw [F_C_MOL_eq]
  decide +kernel

theorem F_KJ_V_EQ_pos (f : TransFns Rat) :
    letI := ratOps f
    (0 : Rat) < F_KJ_V_EQ := by
  rw [F_KJ_V_EQ_eq]
  decide +kernel

theorem R_KJ_DEG_MOL_pos (f : TransFns Rat) :
    letI := ratOps f
    (0 : Rat) < R_KJ_DEG_MOL := by
  rw [R_KJ_DEG_MOL_eq]
  decide +kernel

/-! ## comparisons on `Rat` -/

theorem absGt_eq_false (f : TransFns Rat) (x t : Rat) :
    letI := ratOps f
    absGt x t = false ↔ -t ≤ x ∧ x ≤ t := by
  simp only [absGt, Bool.or_eq_false_iff, decide_eq_false_iff_not, Rat.not_lt]
  rw [Rat.neg_le_iff, and_comm]

theorem absLt_eq_true (f : TransFns Rat) (x t : Rat) :
    letI := ratOps f
    absLt x t = true ↔ -t < x ∧ x < t := by
  simp only [absLt, Bool.and_eq_true, decide_eq_true_eq]
  rw [Rat.neg_lt_iff, and_comm]

/-! ## the gate -/

section
variable {α : Type} [NumOps α] [∀ a b : α, Decidable (a < b)] [∀ a b : α, Decidable (a ≤ b)]

/-- whatever the solver step does and however many iterations it takes: if `model()` returns a state, then
`residuals` reported CONVERGED in exactly that state and `check_residuals` found no error -/
theorem runModel_exit (step : State α → State α) (n : Nat) (s s' : State α)
    (h : runModel step n s = some s') : converged s' = true ∧ checkOk s' = true := by
  fun_induction runModel step n s with
  | case1 s hc => cases h; exact Bool.and_eq_true_iff.1 hc
  | case2 s hc => cases h
  | case3 n s hc hk => cases h; exact ⟨hc, hk⟩
  | case4 n s hc hk => cases h
  | case5 n s hc ih => exact ih h

theorem gate_rows (step : State α → State α) (n : Nat) (s s' : State α)
    (h : runModel step n s = some s') : ∀ r ∈ s'.rows, r.fails s'.env = false ∧ r.checkError s'.env = false := by
  have ⟨hc, hk⟩ := runModel_exit step n s s' h
  intro r hr
  simp only [converged, Bool.and_eq_true, List.all_eq_true, Bool.not_eq_true'] at hc
  simp only [checkOk, List.all_eq_true, Bool.not_eq_true'] at hk
  exact ⟨hc.2 r hr, hk r hr⟩

end

/-- the test every charge row applies: enough grams of surface and `fabs(residual) > tol` -/
theorem charge_row_pass (f : TransFns Rat) (e : Env Rat) (g res : Rat) (hg : e.minRel < g) :
    letI := ratOps f
    (decide (e.minRel < g) && absGt res e.tol) = false → -e.tol ≤ res ∧ res ≤ e.tol := by
  intro h
  rw [decide_eq_true hg, Bool.true_and] at h
  exact (absGt_eq_false f _ _).1 h

/-- the DDL, CCM and diffuse-layer rows put their residual behind `if (grams == 0) residual = 0`; the model writes that
test as `g ≤ 0 ∧ 0 ≤ g` -/
theorem guarded_row_pass (f : TransFns Rat) (e : Env Rat) (g x : Rat) (hg : e.minRel < g) (h0 : 0 ≤ e.minRel) :
    letI := ratOps f
    (decide (e.minRel < g) && absGt (if g ≤ lit 0 ∧ lit 0 ≤ g then lit 0 else x) e.tol) = false →
      -e.tol ≤ x ∧ x ≤ e.tol := by
  intro h
  rw [if_neg fun hz => Rat.not_le.2 (Std.lt_of_le_of_lt h0 hg) hz.1] at h
  exact charge_row_pass f e g x hg h

/-! ## read-outs: the potential, charge density and electrostatic term the program reports, in terms of `la` -/

/-- `sigmaOfCharge` converts moles of charge to C/m²; the code converts back with `* (area * grams) / F_C_MOL` -/
theorem sigmaOfCharge_inv (f : TransFns Rat) (q area grams : Rat) (hA : area * grams ≠ 0) :
    letI := ratOps f
    sigmaOfCharge q area grams * (area * grams) / F_C_MOL = q := by
  letI := ratOps f
  show q * F_C_MOL / (area * grams) * (area * grams) / F_C_MOL = q
  rw [Rat.div_mul_cancel hA, Rat.mul_div_cancel (F_C_MOL_ne_zero f)]

/-- the reduced half potential of the reported ψ is the quantity the code feeds to `sinh`: `F·ψ/(2RT) = la·LOG_10` -/
theorem halfReduced_readout (f : TransFns Rat) (tk la : Rat) (htk : tk ≠ 0) :
    letI := ratOps f
    halfReduced tk (psiOfLa tk la) = la * LOG_10 := by
  have hF := F_KJ_V_EQ_pos f
  have hR := R_KJ_DEG_MOL_pos f
  simp only [halfReduced, psiOfLa, rat_ops]
  grind

theorem halfReduced_neg (f : TransFns Rat) (tk psi : Rat) :
    letI := ratOps f
    halfReduced tk (-psi) = -halfReduced tk psi := by
  show _ * -psi / _ = -(_ * psi / _)
  rw [Rat.mul_neg, Rat.div_def, Rat.neg_mul, ← Rat.div_def]

theorem halfReduced_mono (f : TransFns Rat) (tk p q : Rat) (htk : 0 < tk) (h : p < q) :
    letI := ratOps f
    halfReduced tk p < halfReduced tk q := by
  letI := ratOps f
  have hd : (0 : Rat) < lit 2 * R_KJ_DEG_MOL * tk :=
    Rat.mul_pos (Rat.mul_pos (by decide : (0 : Rat) < 2) (R_KJ_DEG_MOL_pos f)) htk
  show _ * p / _ < _ * q / _
  rw [Rat.div_def, Rat.div_def]
  exact Rat.mul_lt_mul_of_pos_right (Rat.mul_lt_mul_of_pos_left h (F_KJ_V_EQ_pos f)) (Rat.inv_pos.2 hd)

theorem ccm_readout (f : TransFns Rat) (cap tk la : Rat) :
    letI := ratOps f
    ccmSigmaLa cap tk la = ccmSigma cap (psiOfLa tk la) := by
  simp only [ccmSigmaLa, ccmSigma, psiOfLa]
  grind

/-- both potential read-outs have the form `k·R·T·ln10/F` (`k = 2·la` for DDL/CCM, `k = −la` for a CD-MUSIC plane), and
in that unit the electrostatic term of `Δz` is `−k·Δz` -/
theorem electroTerm_unit (f : TransFns Rat) (tk dz k : Rat) (htk : tk ≠ 0) (hL : f.ln 10 ≠ 0) :
    letI := ratOps f
    electroTerm tk dz (k * R_KJ_DEG_MOL * tk * LOG_10 / F_KJ_V_EQ) = k * -dz := by
  have hF := F_KJ_V_EQ_pos f
  have hR := R_KJ_DEG_MOL_pos f
  simp only [electroTerm, LOG_10, rat_ops]
  grind

/-- so a DDL/CCM psi token with coefficient `-2·Δz` contributes the electrostatic term at the reported potential -/
theorem electroTerm_psiOfLa (f : TransFns Rat) (tk dz la : Rat) (htk : tk ≠ 0) (hL : f.ln 10 ≠ 0) :
    letI := ratOps f
    electroTerm tk dz (psiOfLa tk la) = la * (-2 * dz) :=
  (electroTerm_unit f tk dz (la * 2) htk hL).trans (by rw [Rat.mul_assoc, Rat.neg_mul, Rat.mul_neg 2])

/-- and a CD-MUSIC plane token with coefficient `Δz_k` that plane's term -/
theorem electroTerm_psiOfLaCD (f : TransFns Rat) (tk dz la : Rat) (htk : tk ≠ 0) (hL : f.ln 10 ≠ 0) :
    letI := ratOps f
    electroTerm tk dz (psiOfLaCD tk la) = la * dz :=
  (electroTerm_unit f tk dz (-la) htk hL).trans (by rw [Rat.neg_mul, Rat.mul_neg, Rat.neg_neg])

theorem electroTermCD_eq (f : TransFns Rat) (tk d0 d1 d2 p0 p1 p2 : Rat) :
    letI := ratOps f
    electroTermCD tk d0 d1 d2 p0 p1 p2 = electroTerm tk d0 p0 + electroTerm tk d1 p1 + electroTerm tk d2 p2 := by
  simp only [electroTermCD, electroTerm]
  grind

/-! ## mass action -/

theorem foldl_tok_shift (toks : List (Tok Rat)) (a b : Rat) :
    toks.foldl (fun acc t => acc + t.la * t.coef) (a + b) = toks.foldl (fun acc t => acc + t.la * t.coef) a + b :=
  List.foldl_hom (· + b) (H := fun x t => by rw [Rat.add_assoc, Rat.add_comm b, ← Rat.add_assoc])

/-- `molalities` on a reaction that ends in extra tokens `pots` is the mass-action law whose electrostatic term is
the contribution `Σ la·coef` of those tokens -/
theorem lmOf_append_add (f : TransFns Rat) (lk lg : Rat) (toks pots : List (Tok Rat)) :
    letI := ratOps f
    lmOf lk lg (toks ++ pots) + lg = laLaw lk (pots.foldl (fun acc t => acc + t.la * t.coef) 0) toks := by
  simp only [lmOf, laLaw, List.foldl_append]
  rw [Rat.sub_eq_add_neg, foldl_tok_shift, ← Rat.zero_add (_ + -lg), foldl_tok_shift]
  grind

/-! ## Donnan layer -/

/-- the sum `calc_psi_avg` accumulates, written as a specification: charge (eq) of the groups that take part
(charged, and not an excluded co-ion) inside the Donnan volume at reduced potential `p` -/
def donnanCharge (sq ratio : Rat) (onlyCount : Bool) (ex : Rat → Rat) : List (Rat × Rat) → Rat → Rat
  | [], _ => 0
  | g :: rest, p =>
    (if (g.1 ≤ 0 ∧ 0 ≤ g.1) ∨ (onlyCount = true ∧ 0 < sq * g.1) then 0 else g.2 * (ex (-g.1 * p) * ratio))
      + donnanCharge sq ratio onlyCount ex rest p

theorem donnanFd_fst (f : TransFns Rat) (sq ratio : Rat) (oc : Bool) (groups : List (Rat × Rat)) (p : Rat) :
    letI := ratOps f
    (donnanFd sq ratio oc groups p).1 = sq + donnanCharge sq ratio oc f.exp groups p := by
  letI := ratOps f
  show (List.foldl _ ((sq, lit 0) : Rat × Rat) groups).1 = ((sq, lit 0) : Rat × Rat).1 + _
  generalize ((sq, lit 0) : Rat × Rat) = acc
  induction groups generalizing acc with
  | nil => exact (Rat.add_zero _).symm
  | cons g rest ih =>
    rw [List.foldl_cons, ih, donnanCharge, ← Rat.add_assoc]
    congr 1
    dsimp only
    split
    · rw [if_pos ‹_›]; exact (Rat.add_zero _).symm
    · rw [if_neg ‹_›]; rfl

/-! ## sites related to a kinetic reactant -/

/-- history of a surface whose sites are related to a kinetic reactant: a calculation starts from the stored site total
`s` and reactant amount `m`; the reactant goes to `m'`, the engine adds `-prop·(m - m')` sites to the reaction, and the
species of the completed calculation sum to `s'` within `tolS` (the site-balance gate) of that defined number -/
def followsSteps (prop tolS : Rat) : Rat → Rat → List (Rat × Rat) → Prop
  | _, _, [] => True
  | s, m, st :: rest =>
    (-tolS ≤ st.2 - (s - prop * (m - st.1)) ∧ st.2 - (s - prop * (m - st.1)) ≤ tolS) ∧ followsSteps prop tolS st.2 st.1 rest

/-- the (reactant, sites) pair after the history -/
def finalOf : Rat → Rat → List (Rat × Rat) → Rat × Rat
  | s, m, [] => (m, s)
  | _, _, st :: rest => finalOf st.2 st.1 rest

/-- one calculation moves the drift `sites − prop·reactant` from `d0` to `d1` by at most `tolS`; the rest of the
history moves it on to `d` by at most `T` -/
theorem drift_step (d d0 d1 T tolS : Rat) (h1 : -tolS ≤ d1 - d0 ∧ d1 - d0 ≤ tolS) (ih : d1 - T ≤ d ∧ d ≤ d1 + T) :
    d0 - (T + tolS) ≤ d ∧ d ≤ d0 + (T + tolS) := by
  grind

end PhreeqcVerif.Surface
