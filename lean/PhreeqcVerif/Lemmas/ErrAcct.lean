import PhreeqcVerif.Model.ErrAcct
import PhreeqcVerif.Lemmas.List
/-! Invariants of the error-accounting state machine. Core Lean only.

Every step function of the model is the identity on a stopped state and otherwise a composition of four elementary effects:
`inputError := n`, `ioErr`, `warn`, `other`.  A predicate that survives these four (`Preserved`) therefore holds along every
program; the three facts the property theorems need (`Counted`, `StopInv`, ERROR events only accumulate) are instances. -/
namespace PhreeqcVerif.ErrAcct
open PhreeqcVerif.Route

theorem errCount_append (l₁ l₂ : List ErrEv) : errCount (l₁ ++ l₂) = errCount l₁ + errCount l₂ := by
  induction l₁ with
  | nil => simp [errCount]
  | cons e es ih => cases e <;> simp [errCount, ih, Nat.add_right_comm]

theorem errCount_concat_err (l : List ErrEv) (on stop : Bool) (t : List Char) :
    errCount (l ++ [.err on stop t]) = errCount l + 1 := errCount_append l _

theorem errCount_concat_warn (l : List ErrEv) (on : Bool) (t : List Char) : errCount (l ++ [.warn on t]) = errCount l :=
  errCount_append l _

/-! ### a stopped state is a fixed point of every step -/

section stopped
variable {a : Acct} (h : a.stopped = true)
include h

theorem read_stopped (s : ReadStep) : a.read s = a := if_pos h
theorem run_stopped (s : RunStep) : a.run s = a := if_pos h
theorem tailStep_stopped (s : TailStep) : a.tailStep s = a := if_pos h
theorem readInput_stopped : a.readInput = a := if_pos h
theorem gate_stopped (pe on : Bool) : a.gate pe on = a := if_pos h

theorem sim_stopped (s : Sim) : a.sim s = a := by
  rw [Acct.sim, readInput_stopped h, List.foldl_fixed_point (read_stopped h), gate_stopped h, List.foldl_fixed_point (run_stopped h)]

end stopped

/-- once the exception is in flight no step of any phase changes anything -/
theorem prog_stopped {a : Acct} (h : a.stopped = true) (p : Program) : a.prog p = a := by
  rw [Acct.prog, List.foldl_fixed_point (sim_stopped h), readInput_stopped h, List.foldl_fixed_point (tailStep_stopped h)]

theorem Streams.step_stopped {s : Streams} (h : s.stopped = true) (x : StreamStep) : s.step x = s := by
  cases s
  cases x <;> simp_all [Streams.step]

theorem prog_append (a : Acct) (s₁ s₂ : List Sim) (t : List TailStep) :
    a.prog ⟨s₁ ++ s₂, t⟩ = (s₁.foldl Acct.sim a).prog ⟨s₂, t⟩ := by
  rw [Acct.prog, Acct.prog, List.foldl_append]

/-- the shape every step function has: nothing happens once stopped -/
theorem unless_stopped {I : Acct → Prop} {a b : Acct} (ha : I a) (hb : a.stopped = false → I b) :
    I (if a.stopped then a else b) := by
  cases hs : a.stopped
  · exact hb hs
  · exact ha

/-- `I` survives each elementary effect of an engine step on a call that is still running -/
structure Preserved (I : Acct → Prop) : Prop where
  setInputError : ∀ {a : Acct}, I a → ∀ n : Nat, I { a with inputError := n }
  ioErr : ∀ {a : Acct}, I a → a.stopped = false → ∀ (on stop : Bool) (t : List Char), I (a.ioErr on stop t)
  warn : ∀ {a : Acct}, I a → a.stopped = false → ∀ (on : Bool) (t : List Char), I (a.warn on t)
  other : ∀ {a : Acct}, I a → a.stopped = false → I a.other

namespace Preserved
variable {I : Acct → Prop} (h : Preserved I) {a : Acct} (ha : I a)
include h ha

theorem engineErr (hs : a.stopped = false) (on stop : Bool) (t : List Char) : I (a.engineErr on stop t) := by
  unfold Acct.engineErr
  split
  · exact h.ioErr (a := { a with inputError := 1 }) (h.setInputError ha 1) hs on stop t
  · exact h.ioErr ha hs on stop t

theorem read (s : ReadStep) : I (a.read s) :=
  unless_stopped ha fun hs => by
    cases s with
    | bump => exact h.setInputError ha _
    | engineErr on stop t => exact h.engineErr ha hs on stop t
    | ioErr on stop t => exact h.ioErr ha hs on stop t
    | warn on t => exact h.warn ha hs on t
    | other => exact h.other ha hs

theorem run (s : RunStep) : I (a.run s) :=
  unless_stopped ha fun hs => by
    cases s with
    | engineErr on stop t => exact h.engineErr ha hs on stop t
    | ioErr on stop t => exact h.ioErr ha hs on stop t
    | warn on t => exact h.warn ha hs on t
    | other => exact h.other ha hs
    | bumpErr on stop t => exact h.engineErr (a := a.bump) (h.setInputError ha _) hs on stop t
    | errBump on stop t =>
      cases stop
      · exact h.setInputError (h.engineErr ha hs on false t) _
      · exact h.engineErr ha hs on true t

theorem tailStep (s : TailStep) : I (a.tailStep s) :=
  unless_stopped ha fun hs => by
    cases s with
    | ioErr on stop t => exact h.ioErr ha hs on stop t
    | warn on t => exact h.warn ha hs on t
    | other => exact h.other ha hs

theorem readInput : I a.readInput :=
  unless_stopped ha fun _ => h.setInputError ha 0

theorem gate (pe on : Bool) : I (a.gate pe on) :=
  unless_stopped ha fun hs => by
    split
    · exact h.engineErr ha hs on true gateText
    · exact ha

theorem reading (l : List ReadStep) : I (l.foldl Acct.read a) :=
  List.foldlRecOn l _ ha fun _ hb s _ => h.read hb s

theorem running (l : List RunStep) : I (l.foldl Acct.run a) :=
  List.foldlRecOn l _ ha fun _ hb s _ => h.run hb s

theorem tail (l : List TailStep) : I (l.foldl Acct.tailStep a) :=
  List.foldlRecOn l _ ha fun _ hb s _ => h.tailStep hb s

theorem sim (s : Sim) : I (a.sim s) :=
  h.running (h.gate (h.reading (h.readInput ha) _) _ _) _

theorem prog (p : Program) : I (a.prog p) :=
  h.tail (h.readInput (List.foldlRecOn p.sims _ ha fun _ hb s _ => h.sim hb s)) _

end Preserved

/-! ### the counters count ERROR events -/

/-- `io_error_count` counts the ERROR events of the call, and an `IPhreeqcStop` is only thrown by one -/
structure Counted (a : Acct) : Prop where
  io : a.ioErrors = errCount a.events
  stop : a.stopped = true → 0 < a.ioErrors

theorem counted_start : Counted Acct.start := ⟨rfl, Bool.noConfusion⟩

theorem preserved_counted : Preserved Counted where
  setInputError ha _ := ⟨ha.io, ha.stop⟩
  ioErr {a} ha _ on stop t :=
    ⟨(congrArg (· + 1) ha.io).trans (errCount_concat_err a.events on stop t).symm, fun _ => Nat.succ_pos _⟩
  warn {a} ha _ on t := ⟨ha.io.trans (errCount_concat_warn a.events on t).symm, ha.stop⟩
  other ha _ := ⟨ha.io, ha.stop⟩

/-- ERROR events are never taken back -/
theorem preserved_le_errCount (n : Nat) : Preserved fun a => n ≤ errCount a.events where
  setInputError ha _ := ha
  ioErr {a} ha _ on stop t := (errCount_concat_err a.events on stop t).symm ▸ Nat.le_succ_of_le ha
  warn {a} ha _ on t := (errCount_concat_warn a.events on t).symm ▸ ha
  other ha _ := ha

/-- an ERROR event makes `get_input_errors()` non-zero, whatever the value of `input_error` -/
theorem count_ne_zero_of_errCount_pos {a : Acct} (hc : Counted a) (he : 0 < errCount a.events) : a.count ≠ 0 := by
  unfold Acct.count
  split
  · exact hc.io ▸ Nat.ne_of_gt he
  · assumption

/-- a reading phase that contains an error step ends with at least one ERROR event (the step itself, or the earlier STOP that pre-empted it) -/
theorem errCount_pos_of_ioErr_mem {a : Acct} (hc : Counted a) {l : List ReadStep} {on stop : Bool} {t : List Char}
    (hm : ReadStep.ioErr on stop t ∈ l) : 0 < errCount (l.foldl Acct.read a).events := by
  obtain ⟨l₁, l₂, rfl⟩ := List.append_of_mem hm
  rw [List.foldl_append, List.foldl_cons]
  refine (preserved_le_errCount 1).reading ?_ l₂
  have hb : Counted (l₁.foldl Acct.read a) := preserved_counted.reading hc l₁
  cases hs : (l₁.foldl Acct.read a).stopped
  · rw [Acct.read, hs]
    exact (errCount_concat_err ..).symm ▸ Nat.succ_pos _
  · rw [read_stopped hs, ← hb.io]
    exact hb.stop hs

/-- `input_error` is zero unless an `IPhreeqcStop` is in flight: what `read_input` and the gate of `tidy_model` leave behind.
(The typing of the running phase is not needed for it: the last `read_input` of a call resets `input_error` anyway.) -/
def Settled (a : Acct) : Prop := a.stopped = true ∨ a.inputError = 0

/-- in a settled state the value of `get_input_errors()` is non-zero exactly when an ERROR event was routed -/
theorem count_ne_zero_iff {a : Acct} (hc : Counted a) (hs : Settled a) : a.count ≠ 0 ↔ 0 < errCount a.events := by
  refine ⟨fun h => ?_, count_ne_zero_of_errCount_pos hc⟩
  rw [← hc.io]
  rcases hs with hs | h0
  · exact hc.stop hs
  · rw [Acct.count, if_pos h0] at h
    exact Nat.pos_of_ne_zero h

theorem settled_readInput (a : Acct) : Settled a.readInput := by
  unfold Acct.readInput
  split
  · exact .inl ‹_›
  · exact .inr rfl

theorem stopped_engineErr (a : Acct) (on stop : Bool) (t : List Char) : (a.engineErr on stop t).stopped = stop := by
  unfold Acct.engineErr
  split <;> rfl

theorem settled_gate (a : Acct) (pe on : Bool) : Settled (a.gate pe on) := by
  unfold Acct.gate
  split
  · exact .inl ‹_›
  · split
    · exact .inl (stopped_engineErr ..)
    · -- the gate lets only a zero count pass, and `count` is `input_error` when that is non-zero
      rename_i hc
      refine .inr (Decidable.byContradiction fun hi => hc (.inl ?_))
      rw [Acct.count, if_neg hi]
      exact Nat.pos_of_ne_zero hi

theorem inputError_tailStep (a : Acct) (s : TailStep) : (a.tailStep s).inputError = a.inputError := by
  unfold Acct.tailStep
  split
  · rfl
  · cases s <;> rfl

theorem Settled.tailStep {a : Acct} (h : Settled a) (s : TailStep) : Settled (a.tailStep s) := by
  rcases h with hs | h0
  · rw [tailStep_stopped hs]
    exact .inl hs
  · exact .inr ((inputError_tailStep a s).trans h0)

theorem settled_prog (a : Acct) (p : Program) : Settled (a.prog p) :=
  List.foldlRecOn p.tail _ (settled_readInput _) fun _ hb s _ => hb.tailStep s

/-! ### STOP ends the stream -/

def NoStop (l : List ErrEv) : Prop := ∀ e ∈ l, isStop e = false

theorem NoStop.concat {l : List ErrEv} (h : NoStop l) {e : ErrEv} (he : isStop e = false) : NoStop (l ++ [e]) :=
  List.forall_mem_append.mpr ⟨h, List.forall_mem_singleton.mpr he⟩

/-- shape of the event list: no STOP event while running; after the throw the STOP event is the last one and nothing was routed since -/
def StopInv (a : Acct) : Prop :=
  (a.stopped = true → ∃ pre e, a.events = pre ++ [e] ∧ isStop e = true ∧ NoStop pre ∧ a.stopAt = some a.routed) ∧
  (a.stopped = false → NoStop a.events ∧ a.stopAt = none)

theorem stopInv_start : StopInv Acct.start :=
  ⟨Bool.noConfusion, fun _ => ⟨fun _ h => (nomatch h), rfl⟩⟩

theorem preserved_stopInv : Preserved StopInv where
  setInputError ha _ := ha
  ioErr {a} ha hs on stop t := by
    obtain ⟨hn, hnone⟩ := ha.2 hs
    cases stop with
    | false => exact ⟨Bool.noConfusion, fun _ => ⟨hn.concat rfl, hnone⟩⟩
    | true => exact ⟨fun _ => ⟨a.events, .err on true t, rfl, rfl, hn, rfl⟩, Bool.noConfusion⟩
  warn {a} ha hs on t := by
    obtain ⟨hn, hnone⟩ := ha.2 hs
    exact ⟨fun h' => Bool.noConfusion (hs.symm.trans h'), fun _ => ⟨hn.concat rfl, hnone⟩⟩
  other {a} ha hs := ⟨fun h' => Bool.noConfusion (hs.symm.trans h'), fun _ => ha.2 hs⟩

/-- a STOP event anywhere in the list is its last element -/
theorem StopInv.stop_last {a : Acct} (h : StopInv a) {pre post : List ErrEv} {e : ErrEv}
    (he : a.events = pre ++ e :: post) (hs : isStop e = true) : post = [] := by
  have hmem : ∀ {l : List ErrEv}, NoStop l → e ∉ l := fun hn hm => Bool.noConfusion ((hn e hm).symm.trans hs)
  cases hst : a.stopped with
  | false => exact absurd (he ▸ List.mem_append_right pre (List.mem_cons_self ..)) (hmem (h.2 hst).1)
  | true =>
    obtain ⟨pre', e', hev, _, hno, _⟩ := h.1 hst
    rcases List.eq_nil_or_concat post with rfl | ⟨q, x, rfl⟩
    · rfl
    · -- `pre' ++ [e'] = (pre ++ e :: q) ++ [x]` puts `e` into the STOP-free `pre'`
      rw [hev, List.concat_eq_append, ← List.cons_append, ← List.append_assoc] at he
      have := (List.append_inj' he rfl).1
      exact absurd (this ▸ List.mem_append_right pre (List.mem_cons_self ..)) (hmem hno)

/-! ### a `Run*` call on a loaded instance is the program run from `Acct.start` -/

theorem runCall_ret {w : Wrapper} (h : w.dbLoaded = true) (cfg : ErrCfg) (on : Bool) (p : Program) :
    (runCall cfg on w p).ret = (Acct.start.prog p).count := by
  rw [runCall, if_pos h]

theorem runCall_events {w : Wrapper} (h : w.dbLoaded = true) (cfg : ErrCfg) (on : Bool) (p : Program) :
    (runCall cfg on w p).events = (Acct.start.prog p).events := by
  rw [runCall, if_pos h]

theorem runCall_congr {w w' : Wrapper} (h : w.dbLoaded = true) (h' : w'.dbLoaded = true) (cfg : ErrCfg) (on : Bool)
    (p : Program) : runCall cfg on w p = runCall cfg on w' p := by
  unfold runCall
  rw [h, h']
  rfl

/-- the accounting state in which `read_database` returns: the reading phase of `db` and the gate, nothing run -/
abbrev dbPhase (db : Sim) : Acct := Acct.start.sim { db with running := [] }

/-- a load whose database phase records no error is its self-test run on a new loaded instance, after the database's events -/
theorem loadCall_ok {db : Sim} (h : (dbPhase db).count = 0) (rf : Bool) (cfg : ErrCfg) (on : Bool) (w : Wrapper)
    (test : Program) :
    loadCall rf cfg on w db test =
      { runCall cfg on { Wrapper.fresh with dbLoaded := true } test with
        events := (dbPhase db).events ++ (runCall cfg on { Wrapper.fresh with dbLoaded := true } test).events
        routed := (dbPhase db).routed + (runCall cfg on { Wrapper.fresh with dbLoaded := true } test).routed } := by
  rw [loadCall, if_pos h, runCall_congr (w' := { Wrapper.fresh with dbLoaded := true }) (by rw [h]; rfl) rfl]

/-- a load whose database phase fails leaves the line vectors alone unless `load_db` refreshes them itself -/
theorem loadCall_failed_lines {db : Sim} (h : (dbPhase db).count ≠ 0)
    (cfg : ErrCfg) (on : Bool) (w : Wrapper) (test : Program) :
    (loadCall false cfg on w db test).w.errLines = w.errLines ∧
    (loadCall false cfg on w db test).w.warnLines = w.warnLines := by
  rw [loadCall, if_neg h]
  exact ⟨rfl, rfl⟩

end PhreeqcVerif.ErrAcct
