import PhreeqcVerif.Model.NumOps
import PhreeqcVerif.Lemmas.Attr
/-! How the members of `NumOps` compute at the instance `ratOps f`: a literal is itself and each transcendental function
is the corresponding member of `f`. All hold by `rfl`. They are `simp` lemmas, and `simp only [rat_ops]` applies exactly
this set, which is how proofs over `ratOps f` get rid of the instance before the arithmetic starts. -/
namespace PhreeqcVerif

section rat
variable (f : TransFns Rat)
@[simp, rat_ops] theorem rat_lit (q : Rat) : @NumOps.lit Rat (ratOps f) q = q := rfl
@[simp, rat_ops] theorem rat_ofRat (q : Rat) : @NumOps.ofRat Rat (ratOps f) q = q := rfl
@[simp, rat_ops] theorem rat_sqrt (x : Rat) : @NumOps.sqrt Rat (ratOps f) x = f.sqrt x := rfl
@[simp, rat_ops] theorem rat_ln (x : Rat) : @NumOps.ln Rat (ratOps f) x = f.ln x := rfl
@[simp, rat_ops] theorem rat_exp (x : Rat) : @NumOps.exp Rat (ratOps f) x = f.exp x := rfl
@[simp, rat_ops] theorem rat_log10 (x : Rat) : @NumOps.log10 Rat (ratOps f) x = f.log10 x := rfl
@[simp, rat_ops] theorem rat_exp10 (x : Rat) : @NumOps.exp10 Rat (ratOps f) x = f.exp10 x := rfl
@[simp, rat_ops] theorem rat_sinh (x : Rat) : @NumOps.sinh Rat (ratOps f) x = f.sinh x := rfl
@[simp, rat_ops] theorem rat_cos (x : Rat) : @NumOps.cos Rat (ratOps f) x = f.cos x := rfl
@[simp, rat_ops] theorem rat_acos (x : Rat) : @NumOps.acos Rat (ratOps f) x = f.acos x := rfl
@[simp, rat_ops] theorem rat_cbrt (x : Rat) : @NumOps.cbrt Rat (ratOps f) x = f.cbrt x := rfl
@[simp, rat_ops] theorem rat_floor (x : Rat) : @NumOps.floor Rat (ratOps f) x = f.floor x := rfl
@[simp, rat_ops] theorem rat_fns_sqrt (x : Rat) : (@NumOps.fns Rat (ratOps f)).sqrt x = f.sqrt x := rfl
@[simp, rat_ops] theorem rat_fns_ln (x : Rat) : (@NumOps.fns Rat (ratOps f)).ln x = f.ln x := rfl
@[simp, rat_ops] theorem rat_fns_exp (x : Rat) : (@NumOps.fns Rat (ratOps f)).exp x = f.exp x := rfl
end rat

end PhreeqcVerif
