import Mathlib.Tactic.Ring
import Mathlib.Tactic.Linarith
import Mathlib.Tactic.FieldSimp
import Mathlib.Tactic.LinearCombination
import Mathlib.Algebra.Order.Field.Rat
import Mathlib.Analysis.SpecialFunctions.Trigonometric.Inverse
import Mathlib.Analysis.SpecialFunctions.Pow.Real
import PhreeqcVerif.Model.PengRobinson
import PhreeqcVerif.Model.GasPhase
import PhreeqcVerif.Lemmas.NumOps
/-! Algebra behind `Properties/C19.lean`.  The equation of state and the cubic solver are treated once, for the model
instantiated at an arbitrary (ordered) field `K` by `fieldOps`; `ratOps f` and `realOps` are the instances at `ℚ` and `ℝ`
(`fieldOps_rat`, `fieldOps_real`), so the statements of `Properties/C19.lean` over `Rat` and over `ℝ` are the same
theorems.  The bookkeeping around the solver (sums, mole fractions, the clamp, the gate) is done at `ratOps f` only. -/
-- a proof repeats the `letI := …` of its statement; the linter would have `let` there
set_option linter.style.haveILetI false
namespace PhreeqcVerif.GasLemmas
open PhreeqcVerif NumOps PR GasPhase

/-! ### the model over an ordered field -/

section ordered_field
variable {K : Type} [Field K] [LinearOrder K]

/-- the model's number operations on an ordered field: literals are cast, arithmetic is the field's, the
transcendental functions are the parameter `f` -/
@[reducible] def fieldOps (f : TransFns K) : NumOps K where
  ofRat q := (q : K)
  fns := f

/-- `Properties/C19.lean` writes `ratOps f` (and `realOps`, see `fieldOps_real`) in its statements and proves them by the
lemmas below about `fieldOps f`: that type-checks because the instances unfold to each other -/
theorem fieldOps_rat (f : TransFns ℚ) : fieldOps f = ratOps f := rfl

variable (f : TransFns K)

theorem lit_cast (q : ℚ) : letI := fieldOps f; (lit q : K) = (q : K) := rfl
theorem field_sqrt (x : K) : letI := fieldOps f; NumOps.sqrt x = f.sqrt x := rfl
theorem field_cbrt (x : K) : letI := fieldOps f; NumOps.cbrt x = f.cbrt x := rfl
theorem field_cos (x : K) : letI := fieldOps f; NumOps.cos x = f.cos x := rfl
theorem field_acos (x : K) : letI := fieldOps f; NumOps.acos x = f.acos x := rfl

theorem rp_eq (c : Cubic K) : letI := fieldOps f; c.rp = c.r2 - c.r1 * c.r1 / 3 := by
  simp only [Cubic.rp, lit_cast, Rat.cast_ofNat]
theorem rq_eq (c : Cubic K) :
    letI := fieldOps f; c.rq = (2 * (c.r1 * c.r1) * c.r1 - 9 * c.r1 * c.r2) / 27 + c.r3 := by
  simp only [Cubic.rq, lit_cast, Rat.cast_ofNat]
theorem rz_eq (c : Cubic K) :
    letI := fieldOps f; c.rz = c.rq * c.rq / 4 + c.rp * c.rp * c.rp / 27 := by
  simp only [Cubic.rz, lit_cast, Rat.cast_ofNat]

/-- the equation of state with both denominators cleared is `P` times the cubic -/
theorem prP_cubic (rt b a p v : K) (hp : p ≠ 0) :
    letI := fieldOps f
    p * (v - b) * (v * (v + 2 * b) - b * b) - (rt * (v * (v + 2 * b) - b * b) - a * (v - b))
      = p * (cubicOf rt b a p).eval v := by
  simp only [cubicOf, Cubic.eval, lit_cast, Rat.cast_ofNat, Rat.cast_neg]
  field_simp
  ring

theorem prP_eq_iff_root (rt b a p v : K) (hp : p ≠ 0) (hv : v - b ≠ 0) (hd : v * (v + 2 * b) - b * b ≠ 0) :
    letI := fieldOps f
    p = prP rt b a v ↔ (cubicOf rt b a p).eval v = 0 := by
  letI := fieldOps f
  have e : prP rt b a v = rt / (v - b) - a / (v * (v + 2 * b) - b * b) := by
    simp only [prP, lit_cast, Rat.cast_ofNat]
  -- right side, times `p ≠ 0`, is `prP_cubic`: `p·(v−b)·D = rt·D − a·(v−b)` with `D` the second denominator
  rw [← mul_right_inj' hp (b := Cubic.eval _ v), mul_zero, ← prP_cubic f rt b a p v hp, sub_eq_zero]
  -- left side: one fraction over `(v−b)·D`, then the denominator cleared
  rw [e, div_sub_div _ _ hv hd, eq_div_iff (mul_ne_zero hv hd)]
  -- the sides now differ in bracketing and in `(v−b)·a` for `a·(v−b)`; made equal, `rw` closes the `↔`
  rw [mul_assoc, mul_comm (v - b) a]

variable [IsStrictOrderedRing K]

/-- substitution `V = t − r1/3` turns the cubic into the depressed cubic `t³ + rp t + rq` -/
theorem eval_shift (c : Cubic K) (t : K) :
    letI := fieldOps f; c.eval (t - c.r1 / 3) = t * t * t + c.rp * t + c.rq := by
  rw [rp_eq, rq_eq]; simp only [Cubic.eval]; ring

/-! ### Cardano's formulas over an ordered field

as coded: `s` (`ri` in the third) stands for the square root taken, `u v m` for the cube roots, `c` for `cos (θ/3)`; the
result is a root of the depressed cubic `t³ + rp·t + rq` -/

theorem cube_inj {x y : K} (h : x * x * x = y * y * y) : x = y :=
  (Odd.pow_inj (by decide : Odd 3)).mp (by linear_combination h)

theorem cardano_sum (rp rq s u v : K) (hs : s * s = rq * rq / 4 + rp * rp * rp / 27)
    (hu : u * u * u = s - rq / 2) (hv : v * v * v = -s - rq / 2) :
    (u + v) * (u + v) * (u + v) + rp * (u + v) + rq = 0 := by
  -- `(u·v)³ = (s − rq/2)·(−s − rq/2) = (−rp/3)³`
  have huv : u * v = -rp / 3 := cube_inj (by linear_combination (v * v * v) * hu + (s - rq / 2) * hv - hs)
  linear_combination hu + hv + 3 * (u + v) * huv

theorem cardano_quot (rp rq s m : K) (hs : s * s = rq * rq / 4 + rp * rp * rp / 27)
    (hm : m * m * m = s + rq / 2) (h0 : s + rq / 2 ≠ 0) :
    let t := -m - rp / (3 * -m)
    t * t * t + rp * t + rq = 0 := by
  intro t
  have hm0 : m ≠ 0 := by
    rintro rfl
    exact h0 (by rw [← hm, mul_zero])
  obtain ⟨v, ht, hmv⟩ : ∃ v, t = v - m ∧ m * v = rp / 3 :=
    ⟨rp / 3 / m, by simp only [t]; ring, mul_div_cancel₀ _ hm0⟩
  -- `t³ + rp·t + rq = v³ − m³ + rq = v³ − (s − rq/2)` since `m·v = rp/3`, and
  -- `(s + rq/2)·v³ = (m·v)³ = rp³/27 = (s + rq/2)·(s − rq/2)`
  rw [ht]
  refine mul_left_cancel₀ h0 ?_
  linear_combination ((m * v) * (m * v) + (m * v) * (rp / 3) + (rp / 3) * (rp / 3) - 3 * (s + rq / 2) * (v - m)) * hmv
    - (v * v * v + (s + rq / 2)) * hm - hs

theorem cardano_trig (rp rq ri m c ct : K) (hrz : rq * rq / 4 + rp * rp * rp / 27 < 0)
    (hri : ri * ri = -(rp * rp * rp) / 27)
    (hm : m * m * m = ri) (hct : ct = -rq / 2 / ri) (h3 : ct = 4 * (c * c * c) - 3 * c) :
    let t := 2 * m * c
    t * t * t + rp * t + rq = 0 := by
  intro t
  have h0 : ri ≠ 0 := by
    rintro rfl
    rw [zero_mul, neg_div, zero_eq_neg] at hri
    rw [hri, add_zero] at hrz
    exact hrz.not_ge (div_nonneg (mul_self_nonneg rq) zero_le_four)
  have hm2 : m * m = -rp / 3 := cube_inj (by linear_combination (m * m * m + ri) * hm + hri)
  have hc : ri * (4 * (c * c * c) - 3 * c) = -rq / 2 := by rw [← h3, hct, mul_div_cancel₀ _ h0]
  -- `t³ + rp·t + rq = 2 m³ (4c³ − 3c) + rq` since `rp = −3m²`
  linear_combination (6 * m * c) * hm2 + (2 * (4 * (c * c * c) - 3 * c)) * hm + 2 * hc

theorem rootA_root (c : Cubic K) :
    letI := fieldOps f
    f.sqrt c.rz * f.sqrt c.rz = c.rz →
    (let A := f.sqrt c.rz - c.rq / 2; f.cbrt A * f.cbrt A * f.cbrt A = A) →
    (let B := -f.sqrt c.rz - c.rq / 2; f.cbrt B * f.cbrt B * f.cbrt B = B) →
    c.eval (rootA c) = 0 := by
  intro hs hA hB
  letI := fieldOps f
  have e : rootA c
      = f.cbrt (f.sqrt c.rz - c.rq / 2) + f.cbrt (-f.sqrt c.rz - c.rq / 2) - c.r1 / 3 := by
    simp only [rootA, lit_cast, Rat.cast_ofNat, field_sqrt, field_cbrt]
  rw [e, eval_shift]
  exact cardano_sum _ _ _ _ _ (hs.trans (rz_eq f c)) hA hB

theorem rootB_root (c : Cubic K) :
    letI := fieldOps f
    f.sqrt c.rz * f.sqrt c.rz = c.rz →
    0 < f.sqrt c.rz + c.rq / 2 →
    (let B := f.sqrt c.rz + c.rq / 2; f.cbrt B * f.cbrt B * f.cbrt B = B) →
    c.eval (rootB c) = 0 := by
  intro hs hpos hB
  letI := fieldOps f
  have e : rootB c
      = -f.cbrt (f.sqrt c.rz + c.rq / 2) - c.rp / (3 * -f.cbrt (f.sqrt c.rz + c.rq / 2)) - c.r1 / 3 := by
    simp only [rootB, lit_cast, Rat.cast_ofNat, field_sqrt, field_cbrt]
  rw [e, eval_shift]
  exact cardano_quot _ _ _ _ (hs.trans (rz_eq f c)) hB hpos.ne'

theorem rootC_root (c : Cubic K) :
    letI := fieldOps f
    c.rz < 0 →
    (let s := -(c.rp * c.rp * c.rp) / 27; f.sqrt s * f.sqrt s = s) →
    (let ri := f.sqrt (-(c.rp * c.rp * c.rp) / 27); f.cbrt ri * f.cbrt ri * f.cbrt ri = ri) →
    (let ri := f.sqrt (-(c.rp * c.rp * c.rp) / 27); f.cos (f.acos (-c.rq / 2 / ri)) = -c.rq / 2 / ri) →
    (let ri := f.sqrt (-(c.rp * c.rp * c.rp) / 27); let th := f.acos (-c.rq / 2 / ri)
      let k := f.cos (th / 3); f.cos th = 4 * (k * k * k) - 3 * k) →
    c.eval (rootC c) = 0 := by
  intro hneg hs hm hacos h3
  letI := fieldOps f
  have e : rootC c
      = 2 * f.cbrt (f.sqrt (-(c.rp * c.rp * c.rp) / 27))
          * f.cos (f.acos (-c.rq / 2 / f.sqrt (-(c.rp * c.rp * c.rp) / 27)) / 3) - c.r1 / 3 := by
    simp only [rootC, lit_cast, Rat.cast_ofNat, field_sqrt, field_cbrt, field_cos, field_acos]
  rw [e, eval_shift]
  exact cardano_trig _ _ _ _ _ _ (by rwa [rz_eq] at hneg) hs hm hacos h3

/-- the volume the solver returns is a root of the cubic, whichever branch it takes, provided `sqrt`, `cbrt`, `cos`,
`acos` obey their defining laws at the arguments of that branch; `vmOfP rt b a p` unfolds to this `match` at
`c = cubicOf rt b a p` -/
theorem vmOfP_root [∀ a b : K, Decidable (a ≤ b)] (c : Cubic K) :
    letI := fieldOps f
    (0 ≤ c.rz → f.sqrt c.rz * f.sqrt c.rz = c.rz) →
    (0 ≤ c.rz → f.sqrt c.rz + c.rq / 2 ≤ 0 →
      (let A := f.sqrt c.rz - c.rq / 2; f.cbrt A * f.cbrt A * f.cbrt A = A) ∧
      (let B := -f.sqrt c.rz - c.rq / 2; f.cbrt B * f.cbrt B * f.cbrt B = B)) →
    (0 ≤ c.rz → 0 < f.sqrt c.rz + c.rq / 2 →
      (let B := f.sqrt c.rz + c.rq / 2; f.cbrt B * f.cbrt B * f.cbrt B = B)) →
    (c.rz < 0 →
      (let s := -(c.rp * c.rp * c.rp) / 27; f.sqrt s * f.sqrt s = s) ∧
      (let ri := f.sqrt (-(c.rp * c.rp * c.rp) / 27); f.cbrt ri * f.cbrt ri * f.cbrt ri = ri) ∧
      (let ri := f.sqrt (-(c.rp * c.rp * c.rp) / 27); f.cos (f.acos (-c.rq / 2 / ri)) = -c.rq / 2 / ri) ∧
      (let ri := f.sqrt (-(c.rp * c.rp * c.rp) / 27); let th := f.acos (-c.rq / 2 / ri)
        let k := f.cos (th / 3); f.cos th = 4 * (k * k * k) - 3 * k)) →
    c.eval (match c.branch with | 0 => rootA c | 1 => rootB c | _ => rootC c) = 0 := by
  intro hsq hA hB hC
  letI := fieldOps f
  have e : c.branch
      = if 0 ≤ c.rz then (if f.sqrt c.rz + c.rq / 2 ≤ 0 then 0 else 1) else 2 := by
    simp only [Cubic.branch, lit_cast, Rat.cast_ofNat, Rat.cast_zero, field_sqrt]
  rw [e]
  split_ifs with hz hb
  · exact rootA_root f c (hsq hz) (hA hz hb).1 (hA hz hb).2
  · exact rootB_root f c (hsq hz) (not_le.mp hb) (hB hz (not_le.mp hb))
  · obtain ⟨h1, h2, h3, h4⟩ := hC (not_le.mp hz)
    exact rootC_root f c (not_le.mp hz) h1 h2 h3 h4

/-- on the trigonometric branch the argument of `acos` lies in [-1, 1] -/
theorem trig_arg_mem (rp rq ri : K) (hrz : rq * rq / 4 + rp * rp * rp / 27 < 0)
    (hri : ri * ri = -(rp * rp * rp) / 27) (h0 : 0 < ri) : -1 ≤ -rq / 2 / ri ∧ -rq / 2 / ri ≤ 1 := by
  have h : (-rq / 2) ^ 2 < ri ^ 2 :=
    calc (-rq / 2) ^ 2 = rq * rq / 4 := by ring
      _ < -(rp * rp * rp) / 27 := by rw [neg_div]; exact lt_neg_iff_add_neg.mpr hrz
      _ = ri ^ 2 := by rw [sq, hri]
  obtain ⟨h1, h2⟩ := abs_lt_of_sq_lt_sq' h h0.le
  exact ⟨(le_div_iff₀ h0).mpr (by rw [neg_one_mul]; exact h1.le), (div_le_iff₀ h0).mpr (by rw [one_mul]; exact h2.le)⟩

end ordered_field

/-! ### what holds for any number type -/

theorem lookupK_mem {α : Type} (tab : List ((String × String) × α)) (a b : String) (k : α) :
    lookupK tab a b = some k → ∃ e ∈ tab, e.1.1 = a ∧ e.1.2 = b := by
  induction tab with
  | nil => nofun
  | cons e rest ih =>
    obtain ⟨⟨x, y⟩, v⟩ := e
    rw [lookupK]
    split_ifs with hk
    · rw [Bool.and_eq_true, beq_iff_eq, beq_iff_eq] at hk
      exact fun _ => ⟨_, List.mem_cons_self, hk⟩
    · exact fun h => (ih h).imp fun e he => ⟨List.mem_cons_of_mem _ he.1, he.2⟩

section
variable {α : Type} [NumOps α]

theorem comps_x (tk : α) (gs : List (Gas α)) (xs : List α) (h : xs.length ≤ gs.length) :
    (comps tk gs xs).map (·.x) = xs := by
  unfold comps
  rw [List.map_map]
  exact (List.map_congr_left fun _ _ => rfl).trans (List.map_snd_zip h)

variable [∀ a b : α, Decidable (a ≤ b)]

/-- every pass of the outer mixing loop appends one `pr_aa_sum2` -/
theorem mix_aa2_length (kf : String → String → α) (cs : List (Comp α)) : (mix kf cs).aa2.length = cs.length := by
  unfold mix
  rw [← List.foldl_hom (fun m : Mix α => m.aa2.length) (g₂ := fun n _ => n + 1)
    fun _ _ => by rw [List.length_append, List.length_singleton]]
  rw [List.foldl_add_const, List.length_nil, Nat.zero_add, Nat.one_mul]

variable [∀ a b : α, Decidable (a < b)]

theorem pOfVm_eq_searchP (search : Bool) (rt b a v : α) :
    pOfVm search rt b a v
      = if searchP search rt b a v (prP rt b a v) ≤ lit 0 then lit 1 else searchP search rt b a v (prP rt b a v) := rfl

theorem searchP_false (rt b a v p0 : α) : searchP false rt b a v p0 = p0 := rfl

theorem searchP_cases (search : Bool) (rt b a v p0 : α) :
    searchP search rt b a v p0 = p0 ∨ ∃ v1, searchP search rt b a v p0 = prP rt b a v1 := by
  let M (p : α) : Prop := p = p0 ∨ ∃ v1, p = prP rt b a v1
  unfold searchP
  -- three nested tests; every `else` returns `p0`, the innermost `then` the pressure at the search's `v1`
  -- (`split_ifs` costs about ten times as much here)
  refine iteInduction (motive := M) (fun _ => ?_) fun _ => .inl rfl
  refine iteInduction (motive := M) (fun _ => ?_) fun _ => .inl rfl
  exact iteInduction (motive := M) (fun _ => .inr ⟨_, rfl⟩) fun _ => .inl rfl

theorem compOut_x (rt b a p vm : α) (c : Comp α) (aa2 : α) : (compOut rt b a p vm c aa2).x = c.x := by
  unfold compOut
  split <;> rfl

/-- with one `pr_aa_sum2` per component, the result lists every component with its own `fraction_x` -/
theorem outOf_comps_x (rt : α) (cs : List (Comp α)) (m : Mix α) (p vm : α) (hlen : m.aa2.length = cs.length) :
    (outOf rt cs m p vm).comps.map (·.x) = cs.map (·.x) := by
  unfold outOf
  rw [List.map_map]
  conv_rhs => rw [← List.map_fst_zip (l₂ := m.aa2) hlen.ge, List.map_map]
  exact List.map_congr_left fun (x : Comp α × α) _ => compOut_x rt m.bsum m.asum p vm x.1 x.2

end

/-! ### the model at `ratOps f` -/

theorem foldl_add (g : β → Rat) (l : List β) (init : Rat) :
    l.foldl (fun acc x => acc + g x) init = init + (l.map g).sum := by
  induction l generalizing init with
  | nil => simp
  | cons x xs ih => simp only [List.foldl_cons, List.map_cons, List.sum_cons]; rw [ih]; ring

/-- mole fractions `n_i / Σ n` sum to one -/
theorem sum_map_div_sum (l : List Rat) (h : l.sum ≠ 0) : (l.map fun n => n / l.sum).sum = 1 := by
  simp only [div_eq_mul_inv, List.sum_map_mul_right, List.map_id', mul_inv_cancel₀ h]

section rat
variable (f : TransFns Rat)

theorem total_eq_sum (l : List Rat) : letI := ratOps f; total l = l.sum :=
  (foldl_add id l 0).trans (by rw [List.map_id, zero_add])

theorem isZero_iff (x : Rat) : letI := ratOps f; isZero x = true ↔ x = 0 := by
  show (decide (x ≤ 0) && decide (0 ≤ x)) = true ↔ x = 0
  rw [Bool.and_eq_true, decide_eq_true_iff, decide_eq_true_iff]
  exact le_antisymm_iff.symm

theorem absv_eq_abs (x : Rat) : letI := ratOps f; absv x = |x| := by
  show (if x < 0 then -x else x) = |x|
  split_ifs with h
  · exact (abs_of_neg h).symm
  · exact (abs_of_nonneg (not_lt.mp h)).symm

theorem prP_ideal (rt v : Rat) : letI := ratOps f; prP rt 0 0 v = rt / v := by
  simp only [prP, rat_ops, sub_zero, zero_div]

theorem lnPhiLo_eq : letI := ratOps f; (lnPhiLo : Rat) = -46 / 10 := rfl
theorem lnPhiHi_eq : letI := ratOps f; (lnPhiHi : Rat) = 444 / 100 := rfl

theorem lnPhiLo_le_hi : letI := ratOps f; (lnPhiLo : Rat) ≤ lnPhiHi := by
  rw [lnPhiLo_eq, lnPhiHi_eq]
  norm_num

theorem clampPhi_mem (x : Rat) : letI := ratOps f; lnPhiLo ≤ clampPhi x ∧ clampPhi x ≤ (lnPhiHi : Rat) := by
  letI := ratOps f
  unfold clampPhi
  split_ifs with h1 h2
  · exact ⟨lnPhiLo_le_hi f, le_rfl⟩
  · exact ⟨le_rfl, lnPhiLo_le_hi f⟩
  · exact ⟨not_lt.mp h2, not_lt.mp h1⟩

theorem lnPhi_bounds (rt b a p v bi aa2i : Rat) :
    letI := ratOps f
    lnPhiLo ≤ lnPhi rt b a p v bi aa2i ∧ lnPhi rt b a p v bi aa2i ≤ (lnPhiHi : Rat) := by
  letI := ratOps f
  unfold lnPhi
  split_ifs
  · exact clampPhi_mem f _
  · exact ⟨le_rfl, lnPhiLo_le_hi f⟩

theorem fractions_sum (ms xs : List Rat) :
    letI := ratOps f
    fractions ms = some xs → xs.sum = 1 ∧ xs.length = ms.length := by
  letI := ratOps f
  -- skipping the zero entries does not change the sum
  have hskip : (fun (acc m : Rat) => if isZero m then acc else acc + m) = fun acc m => acc + m := by
    funext acc m
    split_ifs with hz
    · rw [(isZero_iff f m).mp hz, add_zero]
    · rfl
  unfold fractions
  split
  · rintro ⟨rfl⟩
    exact ⟨List.sum_singleton, rfl⟩
  · rw [hskip, ← total, total_eq_sum]
    dsimp only
    split_ifs with hz
    · nofun
    · rintro ⟨rfl⟩
      rw [isZero_iff] at hz
      exact ⟨sum_map_div_sum _ hz, List.length_map _⟩

theorem compOut_spec (rt b a p vm : Rat) (c : Comp Rat) (aa2 : Rat) :
    letI := ratOps f
    (compOut rt b a p vm c aa2).p = (compOut rt b a p vm c aa2).x * p ∧
    lnPhiLo ≤ (compOut rt b a p vm c aa2).lnphi ∧ (compOut rt b a p vm c aa2).lnphi ≤ (lnPhiHi : Rat) := by
  letI := ratOps f
  unfold compOut
  split_ifs with hz
  · simp only [rat_ops, lnPhiLo_eq, lnPhiHi_eq, (isZero_iff f c.x).mp hz, zero_mul]
    norm_num
  · exact ⟨rfl, lnPhi_bounds f ..⟩

theorem outOf_spec (rt : Rat) (cs : List (Comp Rat)) (m : Mix Rat) (p vm : Rat)
    (hlen : m.aa2.length = cs.length) (hsum : (cs.map (·.x)).sum = 1) :
    letI := ratOps f
    (∀ c ∈ (outOf rt cs m p vm).comps, c.p = c.x * p ∧ lnPhiLo ≤ c.lnphi ∧ c.lnphi ≤ (lnPhiHi : Rat)) ∧
    ((outOf rt cs m p vm).comps.map (·.x)).sum = 1 ∧ ((outOf rt cs m p vm).comps.map (·.p)).sum = p := by
  letI := ratOps f
  have hx := outOf_comps_x rt cs m p vm hlen
  have hall : ∀ c ∈ (outOf rt cs m p vm).comps, c.p = c.x * p ∧ lnPhiLo ≤ c.lnphi ∧ c.lnphi ≤ (lnPhiHi : Rat) :=
    List.forall_mem_map.mpr fun _ _ => compOut_spec f ..
  refine ⟨hall, hx ▸ hsum, ?_⟩
  rw [List.map_congr_left fun c hc => (hall c hc).1, List.sum_map_mul_right, hx, hsum, one_mul]

theorem gasIn_iff (sumP totalP moles minTotal : Rat) :
    letI := ratOps f
    gasIn sumP totalP moles minTotal = true ↔ totalP + 1 / 10000000 < sumP ∨ minTotal < moles := by
  simp only [gasIn, Bool.or_eq_true, decide_eq_true_iff]
  rw [rat_lit]

theorem gateOk_iff (tol sumP totalP : Rat) (gin : Bool) :
    letI := ratOps f
    gateOk tol sumP totalP gin = true ↔ (gin = true → totalP - tol ≤ sumP ∧ sumP ≤ totalP + tol) := by
  simp only [gateOk, Bool.not_eq_true', Bool.and_eq_false_iff, decide_eq_false_iff_not, not_lt, absv_eq_abs]
  rw [abs_sub_le_iff.trans (and_congr sub_le_comm sub_le_iff_le_add'), ← Bool.not_eq_true, ← imp_iff_not_or]
end rat

/-! ### the real-number instance: `sqrt`, `x^(1/3)` (the code's `pow(x, one_3)`), `cos`, `arccos` of Mathlib -/

noncomputable def realFns : TransFns ℝ where
  log10 := fun x => Real.log x / Real.log 10
  exp10 := fun x => (10 : ℝ) ^ x
  ln := Real.log
  exp := Real.exp
  sqrt := Real.sqrt
  sinh := Real.sinh
  cos := Real.cos
  acos := Real.arccos
  cbrt := fun x => x ^ ((3 : ℝ)⁻¹)
  floor := fun x => (⌊x⌋ : ℝ)

@[reducible] noncomputable def realOps : NumOps ℝ where
  ofRat := fun q => (q : ℝ)
  fns := realFns

theorem fieldOps_real : fieldOps realFns = realOps := rfl

theorem cbrt_cube (x : ℝ) (h : 0 ≤ x) : x ^ ((3 : ℝ)⁻¹) * x ^ ((3 : ℝ)⁻¹) * x ^ ((3 : ℝ)⁻¹) = x :=
  (pow_three' _).symm.trans (by simpa using Real.rpow_inv_natCast_pow h (n := 3) (by norm_num))

attribute [local instance] realOps

theorem real_sqrt (x : ℝ) : (NumOps.sqrt x : ℝ) = Real.sqrt x := rfl
theorem real_cbrt (x : ℝ) : (NumOps.cbrt x : ℝ) = x ^ ((3 : ℝ)⁻¹) := rfl
theorem real_cos (x : ℝ) : (NumOps.cos x : ℝ) = Real.cos x := rfl
theorem real_acos (x : ℝ) : (NumOps.acos x : ℝ) = Real.arccos x := rfl

/-- the branch guards make every argument of `cbrt` non-negative and put the argument of `arccos` in [-1, 1], so Mathlib's
functions obey every law `vmOfP_root` asks for -/
theorem cubic_root_real (c : Cubic ℝ) :
    c.eval (match c.branch with | 0 => rootA c | 1 => rootB c | _ => rootC c) = 0 := by
  refine vmOfP_root realFns c (fun hz => Real.mul_self_sqrt hz) (fun hz hb => ⟨cbrt_cube _ ?_, cbrt_cube _ ?_⟩)
    (fun _ hb => cbrt_cube _ hb.le) (fun hn => ?_)
  · have hb : √c.rz + c.rq / 2 ≤ 0 := hb
    show 0 ≤ √c.rz - c.rq / 2
    linarith [Real.sqrt_nonneg c.rz]
  · linarith
  · rw [rz_eq] at hn
    have hs0 : 0 < -(c.rp * c.rp * c.rp) / 27 := by linarith [mul_self_nonneg c.rq]
    have hri := Real.sqrt_pos.mpr hs0
    have hs := Real.mul_self_sqrt hs0.le
    obtain ⟨h1, h2⟩ := trig_arg_mem c.rp c.rq _ hn hs hri
    refine ⟨hs, cbrt_cube _ hri.le, Real.cos_arccos h1 h2, ?_⟩
    intro ri th k
    have h3 : Real.cos (3 * (th / 3)) = 4 * k ^ 3 - 3 * k := Real.cos_three_mul (th / 3)
    rw [mul_div_cancel₀ _ (three_ne_zero' ℝ)] at h3
    exact h3.trans (by ring)

end PhreeqcVerif.GasLemmas
