import PhreeqcVerif.Model.Wrapper
import PhreeqcVerif.Lemmas.LineReader
/-! Lemmas about the wrapper model (C04): the simulation loop over a concatenated simulation list and its independence of
the call-local fields; `Engine.boundary` from the END boundaries of the two readers; every Run* entry point as `core` on
the part of the object it reads (`W.clean`); the accumulate buffer. Core Lean only. -/
namespace PhreeqcVerif.Wrapper
open PhreeqcVerif.LineReader
variable {E : Type}

theorem loop_free (eng : Engine E) (hf : eng.CallLocalFree) (ts : List (List CLine)) : ∀ i j fr fr' e,
    (loop eng i fr e ts).engine = (loop eng j fr' e ts).engine ∧
    (loop eng i fr e ts).rows.map Row.data = (loop eng j fr' e ts).rows.map Row.data ∧
    (loop eng i fr e ts).inputError = (loop eng j fr' e ts).inputError ∧
    (loop eng i fr e ts).io = (loop eng j fr' e ts).io := by
  induction ts with
  | nil => intro i j fr fr' e; simp [loop]
  | cons t ts ih =>
    intro i j fr fr' e
    obtain ⟨h1, h2, h3, h4⟩ := hf ⟨i, i == 1, fr⟩ ⟨j, j == 1, fr'⟩ e t
    simp only [loop]
    by_cases hr : (eng.simStep ⟨i, i == 1, fr⟩ e t).inputError = 0
    · have hr' : (eng.simStep ⟨j, j == 1, fr'⟩ e t).inputError = 0 := h3 ▸ hr
      simp only [hr, hr', ne_eq, not_true_eq_false, if_false]
      obtain ⟨g1, g2, g3, g4⟩ := ih (i + 1) (j + 1) false false (eng.simStep ⟨i, i == 1, fr⟩ e t).engine
      rw [← h1]
      simp [g1, g2, g3, g4, h2, h4]
    · have hr' : ¬ (eng.simStep ⟨j, j == 1, fr'⟩ e t).inputError = 0 := h3 ▸ hr
      simp [hr', h1, h2, h3, h4]

/-- `j` and `fr'` are free: the second loop may be that of a second call, which starts again at 1 with the first-read flag up. -/
theorem loop_split (eng : Engine E) (hf : eng.CallLocalFree) (xs ys : List (List CLine)) (j : Nat) (fr' : Bool) :
    ∀ i fr e, (loop eng i fr e (xs ++ ys)).inputError = 0 →
      (loop eng i fr e xs).inputError = 0 ∧
      (loop eng j fr' (loop eng i fr e xs).engine ys).inputError = 0 ∧
      (loop eng i fr e (xs ++ ys)).io = (loop eng i fr e xs).io + (loop eng j fr' (loop eng i fr e xs).engine ys).io ∧
      (loop eng i fr e (xs ++ ys)).rows.map Row.data =
        ((loop eng i fr e xs).rows ++ (loop eng j fr' (loop eng i fr e xs).engine ys).rows).map Row.data ∧
      (loop eng i fr e (xs ++ ys)).engine = (loop eng j fr' (loop eng i fr e xs).engine ys).engine := by
  induction xs with
  | nil =>
    intro i fr e h
    obtain ⟨f1, f2, f3, f4⟩ := loop_free eng hf ys i j fr fr' e
    simp only [List.nil_append] at h ⊢
    simp [loop, ← f3, h, f4, f2, f1]
  | cons t ts ih =>
    intro i fr e h
    simp only [List.cons_append, loop] at h ⊢
    by_cases hr : (eng.simStep ⟨i, i == 1, fr⟩ e t).inputError = 0
    · simp only [hr, ne_eq, not_true_eq_false, if_false] at h ⊢
      obtain ⟨g1, g2, g3, g4, g5⟩ := ih _ _ _ h
      simp [g1, g2, g3, g4, g5, Nat.add_assoc]
    · simp [hr] at h

/-! ### where the text can be cut: an END boundary of either reader is a boundary of the engine that reads through it -/

theorem Engine.boundary_of_endBoundary (eng : Engine E) (hl : eng.lines = readLines) {a : Bytes}
    (h : endBoundary a = true) : eng.boundary a := fun b => by
  have ⟨h1, h2⟩ := (endBoundary_iff a).1 h
  simp only [Engine.sims, hl]
  rw [readLines_append a b h1, sims_append _ _ h2]

theorem Engine.boundary_of_endBoundaryFS (eng : Engine E) {fs : Bytes → Option Bytes} {d : Nat}
    (hl : eng.lines = linesFS fs d) {a : Bytes} (h : endBoundaryFS fs d a = true) : eng.boundary a := fun b => by
  have ⟨h1, h2⟩ := (endBoundaryFS_iff fs d a).1 h
  simp only [Engine.sims, hl]
  rw [linesFS_append fs d a b h1, sims_append _ _ h2]

/-! ### Run* -/

/-- what a Run* call reads of the object -/
def W.clean (w : W E) : W E :=
  { w with stringInput := [], clearAccumulated := false, errReporter := 0, warnReporter := 0, tables := [] }

theorem run_file (eng : Engine E) (w : W E) (c : Option Bytes) : w.run eng (.file c) = (w.clean.core eng c).finish :=
  rfl

theorem run_accumulated (eng : Engine E) (w : W E) : w.run eng .accumulated =
    ({ w.clean.core eng (some w.stringInput) with stringInput := w.stringInput, clearAccumulated := true }).finish := by
  -- `core` is an `if` on `w.dbLoaded`: a field of its result reduces only once that flag is a literal
  rcases w with ⟨_ | _, _⟩ <;> rfl

theorem run_file_congr (eng : Engine E) (w w' : W E) (h : w.modInput = w'.modInput) (c : Option Bytes) :
    w.run eng (.file c) = w'.run eng (.file c) := by
  -- `clean` overwrites the two fields `modInput` overwrites
  have hc : w.clean = w'.clean := (congrArg W.clean h :)
  rw [run_file, run_file, hc]

theorem run_snd (eng : Engine E) (w : W E) (src : Source) : (w.run eng src).2 = (w.run eng src).1.rc := by
  cases src <;> rfl

theorem run_file_buffer (eng : Engine E) (w : W E) (c : Option Bytes) : (w.run eng (.file c)).1.stringInput = [] := by
  rcases w with ⟨_ | _, _⟩ <;> cases c <;> rfl          -- the split on `dbLoaded` as in `run_accumulated`

theorem rc_zero_iff (w : W E) : w.rc = 0 ↔ w.inputError = 0 ∧ w.ioErrors = 0 := by
  unfold W.rc
  by_cases h : w.inputError = 0 <;> simp [h]

theorem run_file_fields (eng : Engine E) (w : W E) (hdb : w.dbLoaded = true) (t : Bytes) :
    let r := (w.run eng (.file (some t))).1
    let l := loop eng 1 true w.engine (eng.sims t)
    r.engine = l.engine ∧ r.tables = l.rows ∧ r.inputError = l.inputError ∧ r.ioErrors = l.io ∧
    r.dbLoaded = true ∧ r.updateComponents = true := by
  simp [W.run, W.finish, W.resetInput, W.core, W.doRun, W.updateErrors, hdb]

/-! ### accumulate buffer -/

def joinLines (ls : List Bytes) : Bytes := ls.flatMap (fun l => cstr l ++ [10])

theorem accumulate_fold (ls : List Bytes) : ∀ (w : W E), w.clearAccumulated = false →
    (ls.foldl W.accumulateLine w).stringInput = w.stringInput ++ joinLines ls := by
  induction ls with
  | nil => intro w _; simp [joinLines]
  | cons l r ih =>
    intro w h
    rw [List.foldl_cons, ih _ rfl]
    simp [W.accumulateLine, h, joinLines]

theorem accumulate_fold_fresh (l : Bytes) (ls : List Bytes) (w : W E) (h : w.bufferFresh) :
    ((l :: ls).foldl W.accumulateLine w).stringInput = joinLines (l :: ls) := by
  rw [List.foldl_cons, accumulate_fold ls _ rfl]
  rcases h with h | h <;> simp [W.accumulateLine, h, joinLines]

/-- AccumulateLine touches only the buffer, its flag and the two reporters -/
theorem accumulate_fold_clean (ls : List Bytes) (w : W E) : (ls.foldl W.accumulateLine w).clean = w.clean :=
  List.foldlRecOn (motive := fun x : W E => x.clean = w.clean) ls W.accumulateLine rfl fun _ hb _ _ => hb

end PhreeqcVerif.Wrapper
