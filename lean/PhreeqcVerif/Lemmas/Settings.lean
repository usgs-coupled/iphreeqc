import PhreeqcVerif.Model.Settings
import PhreeqcVerif.Lemmas.Assoc
/-! Characterising lemmas of Model/Settings.lean: `setAssoc` as a map update, and `render` (the only place the instance
id enters) commuting with every call of the interface. -/
namespace PhreeqcVerif.Settings

theorem lookup_setAssoc {β} (m : List (Int × β)) (k j : Int) (v : β) :
    (setAssoc m k v).lookup j = if j = k then some v else m.lookup j := by
  rw [setAssoc, Assoc.lookup_cons, Assoc.lookup_filter_ne]
  split <;> rfl

theorem setAssoc_map {α β} (m : List (Int × α)) (f : α → β) (k : Int) (v : α) :
    (setAssoc m k v).map (fun p => (p.1, f p.2)) = setAssoc (m.map (fun p => (p.1, f p.2))) k (f v) := by
  simp [setAssoc, List.filter_map, Function.comp_def]

@[simp] theorem loaded_render (id : Nat) (s : SInst) : (s.render id).loaded = s.loaded := rfl
@[simp] theorem acc_render (id : Nat) (s : SInst) : (s.render id).acc = s.acc := rfl
@[simp] theorem engSel_render (id : Nat) (s : SInst) : (s.render id).engSel = s.engSel := rfl
@[simp] theorem selFileOn_render (id : Nat) (s : SInst) : (s.render id).selFileOn = s.selFileOn := rfl
theorem withEng_render (id : Nat) (s : SInst) (e : List (Int × Option String)) :
    (s.render id).withEng e = (s.withEng e).render id := rfl

theorem isEmpty_render (id : Nat) (x : SName) : (x.render id).isEmpty = x.isEmptyS := by
  cases x with
  | dflt n => cases n <;> simp [SName.render, SName.isEmptyS]
  | dfltSel k => simp [SName.render, SName.isEmptyS, selName]
  | user s => rfl

theorem fresh_render (id : Nat) : fresh id = sfresh.render id := by
  simp only [fresh, sfresh, SInst.render, List.map_cons, List.map_nil, SName.render]
  congr 1
  funext n; cases n <;> rfl

theorem punchName_render (id : Nat) (s : SInst) (n : Int) :
    (s.render id).punchName n = (s.punchName n).render id := by
  have hmiss : (((s.render id).selFileName.lookup n).getD "").isEmpty =
      (match s.selFileName.lookup n with | some x => x.isEmptyS | none => true) := by
    simp only [SInst.render, Assoc.lookup_map_snd]
    cases s.selFileName.lookup n with
    | none => rfl
    | some x => exact isEmpty_render id x
  simp only [Inst.punchName, SInst.punchName, hmiss, engSel_render]
  cases punchChoice (s.engSel.lookup n).join (match s.selFileName.lookup n with | some x => x.isEmptyS | none => true) with
  | file f => simp only [SInst.render]; rw [setAssoc_map s.selFileName (SName.render id) n (.user f)]; rfl
  | dflt => simp only [SInst.render]; rw [setAssoc_map s.selFileName (SName.render id) n (.dfltSel n)]; rfl
  | keep => rfl

theorem foldl_punchName_render (id : Nat) (ks : List Int) (s : SInst) :
    ks.foldl (fun j k => j.punchName k) (s.render id) = (ks.foldl (fun j k => j.punchName k) s).render id :=
  List.foldl_hom (SInst.render id) (punchName_render id)

/-- **one call**: running a call on the rendered state = rendering the result of the symbolic call, which never sees the id -/
theorem call_render (id : Nat) (s : SInst) (c : Call) :
    (s.render id).call c = (((s.call c).1).render id, ((s.call c).2).render id) := by
  cases c with
  | setName n v =>
    cases v with
    | none => rfl
    | some x =>
      by_cases he : x.isEmpty
      · simp [Inst.call, SInst.call, Inst.setName, SRes.render, he]
      · simp only [Inst.call, SInst.call, SInst.render, Inst.setName, SRes.render, he]
        simp only [Bool.false_eq_true, if_false, Prod.mk.injEq, and_true]
        congr 1
        funext t; by_cases ht : t = n <;> simp [ht, SName.render]
  | setCur n => by_cases hn : 0 ≤ n <;> simp [Inst.call, SInst.call, SInst.render, Inst.setCur, SRes.render, hn]
  | setSelFileOn v =>
    by_cases hc : 0 ≤ s.cur <;> simp [Inst.call, SInst.call, SInst.render, Inst.setSelFileOn, SRes.render, hc]
  | setSelName v =>
    cases v with
    | none => rfl
    | some x =>
      by_cases he : x.isEmpty
      · simp [Inst.call, SInst.call, Inst.setSelName, SRes.render, he]
      · simp only [Inst.call, SInst.call, SInst.render, Inst.setSelName, SRes.render, he, Bool.false_eq_true, if_false]
        rw [setAssoc_map s.selFileName (SName.render id) s.cur (.user x)]
        rfl
  | getSelName =>
    simp only [Inst.call, SInst.call, SInst.render, Inst.getSelName, SRes.render, Assoc.lookup_map_snd]
    cases s.selFileName.lookup s.cur <;> simp [SName.render]
  | defSel n f =>
    by_cases hl : s.loaded <;>
      simp [Inst.call, Inst.defSel, SInst.call, hl, SRes.render, withEng_render, punchName_render, foldl_punchName_render]
  | rerun =>
    by_cases hl : s.loaded <;> simp [Inst.call, Inst.rerun, SInst.call, hl, SRes.render, foldl_punchName_render]
  | runAcc =>
    by_cases ha : s.acc
    · by_cases hl : s.loaded <;>
        simp [Inst.call, Inst.runAcc, Inst.rerun, SInst.call, ha, hl, SRes.render, foldl_punchName_render]
    · simp only [Inst.call, Inst.runAcc, SInst.call, acc_render, ha, SRes.render]
      rfl
  -- the remaining calls unfold to the same term on both sides
  | _ => rfl

end PhreeqcVerif.Settings
