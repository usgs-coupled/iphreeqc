import PhreeqcVerif.Lemmas.Registry
import PhreeqcVerif.Model.Api
/-!
# C13 — registry and C / C++ / Fortran bindings behave as one consistent API
-/
namespace PhreeqcVerif.Api
open PhreeqcVerif.Gen.Api

/-- every C wrapper regenerated from the current source has the documented forwarding shape -/
theorem cwrappers_wellformed : cWrappers.all wfC = true := by decide +kernel

/-- every Fortran glue function regenerated from the current source adds only the documented
index shift, padding and row-count adjustment -/
theorem fwrappers_wellformed : fWrappers.all wfF = true := by decide +kernel

/-- the `bind(C)` declarations of the Fortran module match the glue functions -/
theorem f90_binds_match : f90Ok = true := by
  -- the translator sorts both lists by name, so one pass finds every bind among the glue functions
  have h : f90Binds.isSublist (fWrappers.map fun w => (w.name, w.params.length)) = true := by decide +kernel
  refine List.all_eq_true.2 fun b hb => List.any_eq_true.2 ?_
  obtain ⟨w, hw, rfl⟩ := List.mem_map.1 ((List.isSublist_iff_sublist.1 h).subset hb)
  exact ⟨w, hw, by simp⟩

/-- the forwarding shape includes the documented invalid-instance result -/
theorem badOk_of_wfC (w : CW) (h : wfC w = true) : badOk w = true := by
  cases hb : badOk w with
  | true => rfl
  | false =>
    -- every branch of `wfC` but the first has `badOk w` as a conjunct
    have hs : (w.shape != "ok") = true := by simpa [wfC, hb] using h
    rw [badOk, if_pos hs] at hb
    cases hb

/-- **wrapper = documentation, for every function**: the invalid-instance branch of each of the C functions of
IPhreeqcLib.cpp (all of them: the table, the definitions and the declarations of IPhreeqc.h name the same 77 functions
with the same return types and arities) is the result transcribed from the doc comments of IPhreeqc.h -/
theorem wrappers_match_documentation :
    cComplete = true ∧ cWrappers.all badOk = true := by
  refine ⟨?_, List.all_eq_true.2 fun w hw => badOk_of_wfC w (List.all_eq_true.1 cwrappers_wellformed w hw)⟩
  -- every doc block is in the table: the translator sorts the blocks by name as the table is, so one pass shows it
  have h : (docFacts.map (·.name)).isSublist (docSpec.map (·.1)) = true := by decide +kernel
  have hd : docFacts.all (fun f => docSpec.any (fun p => p.1 == f.name)) = true :=
    List.all_eq_true.2 fun f hf => by
      obtain ⟨p, hp, e⟩ := List.mem_map.1 ((List.isSublist_iff_sublist.1 h).subset (List.mem_map_of_mem hf))
      exact List.any_eq_true.2 ⟨p, hp, beq_iff_eq.2 e⟩
  rw [cComplete, hd, Bool.and_true]
  decide +kernel

/-- the hand transcription of the documentation agrees with the mechanical reading of every doc block
(`@retval IPQ_BADINSTANCE`, "a negative value indicates an error", or silence) -/
theorem documentation_table_matches_header : specMatchesHeader = true := by decide +kernel

/-- the Fortran glue is complete (declarations of IPhreeqc_interface_F.h = definitions; every glue function has its C
function; the C functions without glue are exactly the listed ones) and the functions it shifts by one are exactly those
the documentation marks "N is one-based for the Fortran interface" -/
theorem fortran_glue_complete_and_shifts_documented : fComplete = true ∧ shiftsMatchDoc = true := by
  -- `fComplete` first compares declarations and definitions as sets; they are the same list, which is cheaper to evaluate
  have h : fDecls = fWrappers.map (fun w => (w.name, w.ret, w.params.length)) := by decide +kernel
  have hall : fDecls.all (fDecls.contains ·) = true := List.all_eq_true.2 fun _ hx => List.contains_iff_mem.2 hx
  unfold fComplete
  rw [← h]
  simp only [beq_self_eq_true, hall, Bool.and_self, Bool.true_and]
  decide +kernel

/-- non-vacuity: the predicates reject a wrapper returning the wrong invalid-instance result, a wrong shift and a
row-count adjustment without its guard -/
example :
    matchesDoc ⟨"GetLogString", "const char*", [("int", "id")], [], [], "err_msg", true, "x", [], "ok"⟩ .silentEmpty = false ∧
    matchesDoc ⟨"GetDumpStringLineCount", "int", [("int", "id")], [], [], "IPQ_BADINSTANCE", false, "", [], "ok"⟩ .silentZero = false ∧
    wfF ⟨"GetComponentF", "void", [("int*", "id"), ("int*", "n"), ("char*", "comp"), ("int*", "line_length")],
         [("GetComponent", ["*id", "*n"])], [["comp", "::GetComponent(*id,*n)", "line_length"]], false, "", false, "ok"⟩ = false ∧
    wfF ⟨"GetSelectedOutputRowCountF", "int", [("int*", "id")], [("GetSelectedOutputRowCount", ["*id"])], [], true, "", false, "ok"⟩ = false := by
  decide +kernel

/-- `padfstring`: the buffer always holds exactly `len` characters, the source prefix followed by blanks,
and the reported length is the source length -/
theorem padfstring_spec (src : List Char) (len : Nat) :
    (padfstring src len).1.length = len ∧ (padfstring src len).2 = src.length ∧
    (padfstring src len).1.take (min len src.length) = src.take len ∧
    (∀ i, src.length ≤ i → i < len → (padfstring src len).1.getD i 'x' = ' ') := by
  refine ⟨?_, rfl, ?_, ?_⟩
  · simp [padfstring]; omega
  · simp only [padfstring]
    rw [List.take_append_of_le_length (by simp)]
    simp [List.take_take]
  · intro i h1 h2
    simp only [padfstring, List.getD_eq_getElem?_getD]
    have hl : (List.take len src).length = src.length := by simp; omega
    rw [List.getElem?_append_right (by omega), hl, List.getElem?_replicate]
    have : i - src.length < len - src.length := by omega
    simp [this]

end PhreeqcVerif.Api

namespace PhreeqcVerif.Registry

theorem inv_init {σ} : (Reg.init : Reg σ).Inv := .init

theorem inv_create {σ} (r : Reg σ) (fresh : Nat → σ) (h : r.Inv) : (r.create fresh).1.Inv := h.create fresh

theorem inv_destroy {σ} (r : Reg σ) (id : Int) (h : r.Inv) : (r.destroy id).1.Inv := h.destroy id

theorem inv_apply {σ ρ} (r : Reg σ) (id : Int) (f : σ → σ × ρ) (bad : ρ) (h : r.Inv) :
    (r.apply id f bad).1.Inv := h.apply id f bad

theorem inv_run {σ} (fresh : Nat → σ) (ops : List (Op σ)) (r : Reg σ) (h : r.Inv) : (r.run fresh ops).Inv :=
  List.foldlRecOn ops _ h fun r h op _ => by
    cases op with
    | create => exact h.create fresh
    | destroy id => exact h.destroy id
    | call id f => exact h.apply id _ _

/-- ids handed out by any history (any interleaving of creates, destroys and calls) are all ≥ the counter at
the start, strictly increasing — hence pairwise distinct and never reused, whatever was destroyed meanwhile -/
theorem issued_increasing {σ} (fresh : Nat → σ) (ops : List (Op σ)) (r : Reg σ) :
    (∀ i ∈ issued fresh r ops, r.next ≤ i) ∧ (issued fresh r ops).Pairwise (· < ·) := by
  induction ops generalizing r with
  | nil => exact ⟨nofun, .nil⟩
  | cons op ops ih =>
    obtain ⟨h1, h2⟩ := ih (r.step fresh op)
    cases op with
    | create =>
      -- the counter after `create` is `r.next + 1`, so the later ids are above the one issued here
      have hlt : ∀ i ∈ issued fresh (r.create fresh).1 ops, r.next < i := h1
      refine ⟨fun i hi => ?_, List.pairwise_cons.2 ⟨hlt, h2⟩⟩
      rcases List.mem_cons.1 hi with rfl | hi
      · exact Nat.le_refl _
      · exact Nat.le_of_lt (hlt i hi)
    | destroy id | call id f => exact ⟨fun i hi => Nat.le_trans (next_le_step fresh r _) (h1 i hi), h2⟩

theorem ids_unique {σ} (fresh : Nat → σ) (ops : List (Op σ)) : (issued fresh Reg.init ops).Nodup :=
  (issued_increasing fresh ops Reg.init).2.imp Nat.ne_of_lt

/-- a call with an id that is not live changes nothing and returns the invalid-instance result -/
theorem apply_dead {σ ρ} (r : Reg σ) (id : Int) (f : σ → σ × ρ) (bad : ρ) (h : r.lookup id = none) :
    r.apply id f bad = (r, bad) :=
  apply_of_none f bad h

/-- an id that was never issued is not live -/
theorem lookup_unissued {σ} (r : Reg σ) (h : r.Inv) (id : Int) (hid : (r.next : Int) ≤ id) :
    r.lookup id = none :=
  h.lookup_of_next_le hid

/-- after `destroy id` the id is not live (so a second destroy, or any call, gets the invalid-instance result) -/
theorem destroy_not_live {σ} (r : Reg σ) (id : Int) : (r.destroy id).1.lookup id = none := by
  rw [lookup_destroy, if_pos rfl]

/-- double destroy: the second destroy of the same id reports IPQ_BADINSTANCE and changes nothing -/
theorem destroy_idempotent {σ} (r : Reg σ) (id : Int) :
    ((r.destroy id).1.destroy id) = ((r.destroy id).1, -6) :=
  destroy_of_none (destroy_not_live r id)

/-- isolation: an operation on instance `id` leaves every other instance's state unchanged -/
theorem apply_other {σ ρ} (r : Reg σ) (id j : Int) (f : σ → σ × ρ) (bad : ρ) (hj : j ≠ id) :
    (r.apply id f bad).1.lookup j = r.lookup j := by
  rw [lookup_apply, if_neg hj]

/-- destroying an instance does not change the state of any other instance -/
theorem destroy_other {σ} (r : Reg σ) (id j : Int) (hj : j ≠ id) (hj0 : 0 ≤ j) (hid0 : 0 ≤ id) :
    (r.destroy id).1.lookup j = r.lookup j := by
  rw [lookup_destroy, if_neg hj]

/-- creating an instance does not change the state of any live instance -/
theorem create_other {σ} (r : Reg σ) (h : r.Inv) (fresh : Nat → σ) (j : Int) (hj : r.lookup j ≠ none) :
    (r.create fresh).1.lookup j = r.lookup j := by
  rw [lookup_create, if_neg]
  exact fun e => hj (lookup_unissued r h j (by omega))

/-- **projection / isolation**: the state of instance `j` after any interleaved history equals its state after
the sub-history of operations addressed to `j` alone (operations on other ids, creations of other instances
and destructions of other ids are invisible to it) — stated stepwise: any step not addressed to `j` keeps `j` -/
theorem step_other {σ} (fresh : Nat → σ) (r : Reg σ) (h : r.Inv) (j : Int) (hj0 : 0 ≤ j)
    (hlive : r.lookup j ≠ none) (op : Op σ)
    (hop : match op with | .create => True | .destroy id => id ≠ j | .call id _ => id ≠ j) :
    (r.step fresh op).lookup j = r.lookup j := by
  cases op with
  | create => exact create_other r h fresh j hlive
  | destroy id => exact (lookup_destroy r id j).trans (if_neg (Ne.symm hop))
  | call id f => exact apply_other r id j _ _ (Ne.symm hop)

/-- non-vacuity: create, create, destroy 0, create gives ids 0, 1, 2 and only 1, 2 live -/
example :
    let ops : List (Op Nat) := [.create, .create, .destroy 0, .create, .destroy 0, .destroy (-1)]
    issued (fun i => i * 10) Reg.init ops = [0, 1, 2] ∧
    ((Reg.init.run (fun i => i * 10) ops).live.map (·.1)) = [2, 1] := by decide +kernel

end PhreeqcVerif.Registry
