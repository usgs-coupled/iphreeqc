import PhreeqcVerif.Model.PengRobinson
import PhreeqcVerif.Model.GasPhase
import PhreeqcVerif.Lemmas.Gas
/-! C19 — gas phases obey their equation of state and fugacity-based equilibrium.

Theorems about the model of `calc_PR` / `calc_gas_pressures` / `mb_gases` over `Rat` with *uninterpreted*
`sqrt cbrt cos acos ln exp` (`ratOps f` for every `f`): whatever is used about those functions is an explicit
hypothesis at the very argument where the code applies them (never a universally quantified law, which no function
on `Rat` could satisfy).  The `Float` instance of the same definitions is compared with the real code by
`tools/props/c19.py`. -/
-- a proof repeats the `letI := …` of its statement; the linter would have `let` there
set_option linter.style.haveILetI false
namespace PhreeqcVerif.C19
open PhreeqcVerif NumOps PR GasPhase GasLemmas

/-- the identity function for every transcendental: enough for the examples that never call one -/
def idFns : TransFns Rat := ⟨id, id, id, id, id, id, id, id, id, id⟩

/-! ## 1. Peng–Robinson pressure ⇔ the cubic the code solves -/

/-- multiplied-out form: `P·(V−b)·D − (RT·D − a·(V−b)) = P·cubic(V)` with `D = V(V+2b) − b²`, for every `P ≠ 0` -/
theorem pr_cubic_identity (f : TransFns Rat) (rt b a p v : Rat) (hp : p ≠ 0) :
    letI := ratOps f
    p * (v - b) * (v * (v + 2 * b) - b * b) - (rt * (v * (v + 2 * b) - b * b) - a * (v - b))
      = p * (cubicOf rt b a p).eval v :=
  prP_cubic f rt b a p v hp

/-- `P = RT/(V−b) − a/(V(V+2b)−b²)` iff `V` is a root of the code's cubic, under the non-zero denominators -/
theorem pr_iff_cubic (f : TransFns Rat) (rt b a p v : Rat) (hp : p ≠ 0) (hv : v - b ≠ 0)
    (hd : v * (v + 2 * b) - b * b ≠ 0) :
    letI := ratOps f
    p = prP rt b a v ↔ (cubicOf rt b a p).eval v = 0 :=
  prP_eq_iff_root f rt b a p v hp hv hd

/-- non-vacuity: RT = 24, b = 1, a = 35, V = 3: D = 14, P = 24/2 − 35/14 = 19/2, and 3 is a root of the cubic -/
example : (letI := ratOps idFns; prP (24 : Rat) 1 35 3) = 19 / 2 := by decide +kernel
example : (letI := ratOps idFns; (cubicOf (24 : Rat) 1 35 (19 / 2)).eval 3) = 0 := by decide +kernel
example : (letI := ratOps idFns; (cubicOf (24 : Rat) 1 35 (19 / 2)).eval 4) ≠ 0 := by decide +kernel

/-! ## 2. every branch of the cubic solver returns a root -/

/-- Cardano, `rz ≥ 0` and `ri + rq/2 ≤ 0`: sum of two real cube roots -/
theorem cardano_rootA (f : TransFns Rat) (c : Cubic Rat) :
    letI := ratOps f
    f.sqrt c.rz * f.sqrt c.rz = c.rz →
    (let A := f.sqrt c.rz - c.rq / 2; f.cbrt A * f.cbrt A * f.cbrt A = A) →
    (let B := -f.sqrt c.rz - c.rq / 2; f.cbrt B * f.cbrt B * f.cbrt B = B) →
    c.eval (rootA c) = 0 :=
  rootA_root f c

/-- Cardano, `rz ≥ 0` and `ri + rq/2 > 0`: `w = −cbrt(ri + rq/2)`, `V = w − rp/(3w) − r1/3` -/
theorem cardano_rootB (f : TransFns Rat) (c : Cubic Rat) :
    letI := ratOps f
    f.sqrt c.rz * f.sqrt c.rz = c.rz →
    0 < f.sqrt c.rz + c.rq / 2 →
    (let B := f.sqrt c.rz + c.rq / 2; f.cbrt B * f.cbrt B * f.cbrt B = B) →
    c.eval (rootB c) = 0 :=
  rootB_root f c

/-- trigonometric branch, `rz < 0`: `ri = sqrt(−rp³/27)`, `θ = acos(−rq/2/ri)`, `V = 2 cbrt(ri) cos(θ/3) − r1/3`;
the triple-angle law `cos θ = 4 cos³(θ/3) − 3 cos(θ/3)` and `cos (acos y) = y` are required at the used arguments -/
theorem cardano_rootC (f : TransFns Rat) (c : Cubic Rat) :
    letI := ratOps f
    c.rz < 0 →
    (let s := -(c.rp * c.rp * c.rp) / 27; f.sqrt s * f.sqrt s = s) →
    (let ri := f.sqrt (-(c.rp * c.rp * c.rp) / 27); f.cbrt ri * f.cbrt ri * f.cbrt ri = ri) →
    (let ri := f.sqrt (-(c.rp * c.rp * c.rp) / 27); f.cos (f.acos (-c.rq / 2 / ri)) = -c.rq / 2 / ri) →
    (let ri := f.sqrt (-(c.rp * c.rp * c.rp) / 27); let th := f.acos (-c.rq / 2 / ri)
      let k := f.cos (th / 3); f.cos th = 4 * (k * k * k) - 3 * k) →
    c.eval (rootC c) = 0 :=
  rootC_root f c

/-- the molar volume `calc_PR` returns for a given pressure is a root of its cubic — whichever branch is taken —
provided `sqrt`, `cbrt`, `cos`, `acos` obey their defining laws at the arguments of that branch -/
theorem cardano_branches_root (f : TransFns Rat) (rt b a p : Rat) :
    letI := ratOps f
    let c := cubicOf rt b a p
    (0 ≤ c.rz → f.sqrt c.rz * f.sqrt c.rz = c.rz) →
    (0 ≤ c.rz → f.sqrt c.rz + c.rq / 2 ≤ 0 →
      (let A := f.sqrt c.rz - c.rq / 2; f.cbrt A * f.cbrt A * f.cbrt A = A) ∧
      (let B := -f.sqrt c.rz - c.rq / 2; f.cbrt B * f.cbrt B * f.cbrt B = B)) →
    (0 ≤ c.rz → 0 < f.sqrt c.rz + c.rq / 2 →
      (let B := f.sqrt c.rz + c.rq / 2; f.cbrt B * f.cbrt B * f.cbrt B = B)) →
    (c.rz < 0 →
      (let s := -(c.rp * c.rp * c.rp) / 27; f.sqrt s * f.sqrt s = s) ∧
      (let ri := f.sqrt (-(c.rp * c.rp * c.rp) / 27); f.cbrt ri * f.cbrt ri * f.cbrt ri = ri) ∧
      (let ri := f.sqrt (-(c.rp * c.rp * c.rp) / 27); f.cos (f.acos (-c.rq / 2 / ri)) = -c.rq / 2 / ri) ∧
      (let ri := f.sqrt (-(c.rp * c.rp * c.rp) / 27); let th := f.acos (-c.rq / 2 / ri)
        let k := f.cos (th / 3); f.cos th = 4 * (k * k * k) - 3 * k)) →
    c.eval (vmOfP rt b a p) = 0 :=
  vmOfP_root f _

/-! non-vacuity of the three branches on concrete rationals (depressed cubics, `r1 = 0`):
A: `t³ − 6t − 9`, `rz = 49/4`, `ri = 7/2`, `ri + rq/2 = −1`, cube roots of 8 and 1, root 3;
B: `t³ − 6t + 9`, `ri + rq/2 = 8`, `w = −2`, root −3;
C: `t³ − 3t + 9/8`, `rz = 81/256 − 1 < 0`, `ri = 1`, `cos θ = −9/16`, `cos(θ/3) = 3/4`, root 3/2. -/
def exFns : TransFns Rat :=
  { idFns with
    sqrt := fun x => if x = 49 / 4 then 7 / 2 else if x = 1 then 1 else 0
    cbrt := fun x => if x = 8 then 2 else if x = 1 then 1 else 0
    acos := fun x => if x = -9 / 16 then 7 else 0
    cos := fun x => if x = 7 then -9 / 16 else if x = 7 / 3 then 3 / 4 else 0 }

example : (letI := ratOps exFns; rootA (⟨0, -6, -9⟩ : Cubic Rat)) = 3 := by decide +kernel
example : (letI := ratOps exFns; (⟨0, -6, -9⟩ : Cubic Rat).branch) = 0 := by decide +kernel
example : (letI := ratOps exFns; (⟨0, -6, -9⟩ : Cubic Rat).eval (rootA ⟨0, -6, -9⟩)) = 0 :=
  cardano_rootA exFns ⟨0, -6, -9⟩ (by decide +kernel) (by decide +kernel) (by decide +kernel)
example : (letI := ratOps exFns; rootB (⟨0, -6, 9⟩ : Cubic Rat)) = -3 := by decide +kernel
example : (letI := ratOps exFns; (⟨0, -6, 9⟩ : Cubic Rat).branch) = 1 := by decide +kernel
example : (letI := ratOps exFns; (⟨0, -6, 9⟩ : Cubic Rat).eval (rootB ⟨0, -6, 9⟩)) = 0 :=
  cardano_rootB exFns ⟨0, -6, 9⟩ (by decide +kernel) (by decide +kernel) (by decide +kernel)
example : (letI := ratOps exFns; rootC (⟨0, -3, 9 / 8⟩ : Cubic Rat)) = 3 / 2 := by decide +kernel
example : (letI := ratOps exFns; (⟨0, -3, 9 / 8⟩ : Cubic Rat).branch) = 2 := by decide +kernel
example : (letI := ratOps exFns; (⟨0, -3, 9 / 8⟩ : Cubic Rat).eval (rootC ⟨0, -3, 9 / 8⟩)) = 0 :=
  cardano_rootC exFns ⟨0, -3, 9 / 8⟩ (by decide +kernel) (by decide +kernel) (by decide +kernel)
    (by decide +kernel) (by decide +kernel)

/-! ## 3. partial pressures are mole-fraction shares of the total and sum to it -/

/-- `pr_p_i = (n_i / Σn) · P` for every component, and `Σ pr_p_i = P` whenever the phase holds gas -/
theorem partial_pressures_sum (f : TransFns Rat) (ns : List Rat) (p : Rat) :
    letI := ratOps f
    (∀ i (h : i < ns.length), (partials ns p)[i]'(by simp [partials]; exact h) = ns[i] / total ns * p) ∧
    (total ns ≠ 0 → total (partials ns p) = p) := by
  letI := ratOps f
  refine ⟨fun i h => List.getElem_map _, fun h0 => ?_⟩
  rw [total_eq_sum] at h0
  rw [partials, total_eq_sum, total_eq_sum, List.sum_map_mul_right, sum_map_div_sum ns h0, one_mul]

example : (letI := ratOps idFns; partials [1, 3, 4] (16 : Rat)) = [2, 6, 8] := by decide +kernel
example : (letI := ratOps idFns; total (partials [1, 3, 4] (16 : Rat))) = 16 := by decide +kernel

/-! ## 4. the fugacity coefficient stays inside its clamp -/

/-- `−4.6 ≤ ln φ ≤ 4.44` for every input and whatever `ln` returns (φ between 0.01 and 85) -/
theorem phi_clamp (f : TransFns Rat) (rt b a p v bi aa2i : Rat) :
    letI := ratOps f
    lnPhiLo ≤ lnPhi rt b a p v bi aa2i ∧ lnPhi rt b a p v bi aa2i ≤ (lnPhiHi : Rat) :=
  lnPhi_bounds f rt b a p v bi aa2i

/-- inside the clamp the stored value is the equation-of-state expression itself -/
theorem phi_inside_clamp (f : TransFns Rat) (rt b a p v bi aa2i : Rat) :
    letI := ratOps f
    b * p / rt < p * v / rt → lnPhiLo ≤ lnPhiRaw rt b a p v bi aa2i → lnPhiRaw rt b a p v bi aa2i ≤ lnPhiHi →
    lnPhi rt b a p v bi aa2i = lnPhiRaw rt b a p v bi aa2i := by
  letI := ratOps f
  intro hz hlo hhi
  rw [lnPhi, if_pos hz, clampPhi, if_neg (not_lt.mpr hhi), if_neg (not_lt.mpr hlo)]

/-- non-vacuity: with `ln = id`, RT = 1, b = 1/10, a = 1/5, P = 1, V = 2, pure gas: raw value inside the clamp;
with `ln x = 100` the clamp is active -/
example : (letI := ratOps idFns; lnPhi (1 : Rat) (1 / 10) (1 / 5) 1 2 (1 / 10) (1 / 5))
    = (letI := ratOps idFns; lnPhiRaw (1 : Rat) (1 / 10) (1 / 5) 1 2 (1 / 10) (1 / 5)) := by decide +kernel
example : (letI := ratOps { idFns with ln := fun _ => -100 }; lnPhi (1 : Rat) (1 / 10) (1 / 5) 1 2 (1 / 10) (1 / 5))
    = 444 / 100 := by decide +kernel
example : (letI := ratOps idFns; lnPhi (1 : Rat) (1 / 10) (1 / 5) 1 (1 / 20) (1 / 10) (1 / 5)) = -46 / 10 := by
  decide +kernel

/-! ## 5. existence of a fixed-pressure gas phase -/

/-- `mb_gases` and the `GAS_MOLES` row of `residuals`: in a state the convergence gate accepts,
* the phase equation is in the model iff Σ equilibrium partial pressures exceeds P (+1e-7) or the phase holds moles;
* if it is in, Σ p = P within the tolerance; if it is out, the phase is empty and Σ p ≤ P + 1e-7. -/
theorem fixedP_exists_iff (f : TransFns Rat) (tol sumP totalP moles minTotal : Rat) :
    letI := ratOps f
    gateOk tol sumP totalP (gasIn sumP totalP moles minTotal) = true →
    (gasIn sumP totalP moles minTotal = true ↔ (totalP + 1 / 10000000 < sumP ∨ minTotal < moles)) ∧
    (gasIn sumP totalP moles minTotal = true → totalP - tol ≤ sumP ∧ sumP ≤ totalP + tol) ∧
    (gasIn sumP totalP moles minTotal = false → sumP ≤ totalP + 1 / 10000000 ∧ moles ≤ minTotal) := by
  intro hg
  refine ⟨gasIn_iff f .., (gateOk_iff f ..).mp hg, fun h => ?_⟩
  rwa [← Bool.not_eq_true, gasIn_iff, not_or, not_lt, not_lt] at h

/-- a phase that exists (moles above `MIN_TOTAL`) has Σ equilibrium partial pressures = P within the tolerance -/
theorem fixedP_exists_reaches (f : TransFns Rat) (tol sumP totalP moles minTotal : Rat) :
    letI := ratOps f
    gateOk tol sumP totalP (gasIn sumP totalP moles minTotal) = true → minTotal < moles →
    totalP - tol ≤ sumP ∧ sumP ≤ totalP + tol := by
  intro hg hm
  obtain ⟨hiff, hin, -⟩ := fixedP_exists_iff f tol sumP totalP moles minTotal hg
  exact hin (hiff.mpr (Or.inr hm))

/-- if Σ equilibrium partial pressures stays below P − tol the phase cannot exist; and (for `tol ≤ 1e-7`) an accepted
state never has Σ p above P + 1e-7 -/
theorem fixedP_absent_below (f : TransFns Rat) (tol sumP totalP moles minTotal : Rat) :
    letI := ratOps f
    gateOk tol sumP totalP (gasIn sumP totalP moles minTotal) = true →
    (sumP < totalP - tol → moles ≤ minTotal) ∧ (tol ≤ 1 / 10000000 → sumP ≤ totalP + 1 / 10000000) := by
  intro hg
  obtain ⟨-, hin, hout⟩ := fixedP_exists_iff f tol sumP totalP moles minTotal hg
  cases hgi : (letI := ratOps f; gasIn sumP totalP moles minTotal) with
  | true => exact ⟨fun h => absurd (hin hgi).1 (not_le.mpr h), fun h => (hin hgi).2.trans (by linarith)⟩
  | false => exact ⟨fun _ => (hout hgi).2, fun _ => (hout hgi).1⟩

example : (letI := ratOps idFns; gasIn (3 / 2 : Rat) 1 0 (1 / 10 ^ 25)) = true := by decide +kernel
example : (letI := ratOps idFns; gasIn (1 / 2 : Rat) 1 0 (1 / 10 ^ 25)) = false := by decide +kernel
example : (letI := ratOps idFns; gateOk (1 / 10 ^ 8 : Rat) (3 / 2) 1 true) = false := by decide +kernel
example : (letI := ratOps idFns; gateOk (1 / 10 ^ 8 : Rat) 1 1 true) = true := by decide +kernel

/-! ## 6. ideal-gas limit -/

/-- `a = b = 0` ⇒ `P V = R T` for the molar volume, hence `P·Vol = n R T` -/
theorem ideal_limit (f : TransFns Rat) (rt v : Rat) (hv : v ≠ 0) :
    letI := ratOps f
    prP rt 0 0 v * v = rt := by
  rw [prP_ideal]
  exact div_mul_cancel₀ rt hv

theorem ideal_limit_moles (f : TransFns Rat) (rt vol n : Rat) (hv : vol ≠ 0) (hn : n ≠ 0) :
    letI := ratOps f
    prP rt 0 0 (vol / n) * vol = n * rt := by
  rw [prP_ideal]
  field_simp

/-- with `a = b = 0` the ideal volume `RT/P` is a root of the cubic the code solves -/
theorem ideal_cubic_root (f : TransFns Rat) (rt p : Rat) (_hp : p ≠ 0) :
    letI := ratOps f
    (cubicOf rt 0 0 p).eval (rt / p) = 0 := by
  simp only [cubicOf, Cubic.eval, rat_ops]
  ring

theorem ideal_gas_law (f : TransFns Rat) (n tk vol : Rat) (hv : vol ≠ 0) :
    letI := ratOps f
    idealP n tk vol * vol = n * gasR * tk :=
  div_mul_cancel₀ _ hv

example : (letI := ratOps idFns; prP (24 : Rat) 0 0 3) = 8 := by decide +kernel
example : (letI := ratOps idFns; idealP (2 : Rat) 300 10 * 10) = 2 * (820597 / 10000000) * 300 := by decide +kernel

/-! ## 7. the whole of `calc_PR`: what every call returns -/

/-- what `calc_PR` returns (one gas record per mole number): partial pressures are the mole-fraction shares of the
pressure used, they sum to it, the fractions sum to one, every ln φ lies in the clamp -/
theorem calcPR_spec (f : TransFns Rat) (tab : List ((String × String) × Rat)) (search : Bool)
    (gs : List (Gas Rat)) (moles : List Rat) (p tk vm : Rat) (hlen : gs.length = moles.length) :
    letI := ratOps f
    ∀ o, calcPR tab search gs moles p tk vm = some o →
      (∀ c ∈ o.comps, c.p = c.x * o.p ∧ (-46 / 10 : Rat) ≤ c.lnphi ∧ c.lnphi ≤ 444 / 100) ∧
      (o.comps.map (·.x)).sum = 1 ∧ (o.comps.map (·.p)).sum = o.p := by
  letI := ratOps f
  intro o h
  unfold calcPR at h
  split at h
  · cases h
  · rename_i xs hf
    cases h
    obtain ⟨hxs, hxl⟩ := fractions_sum f moles xs hf
    rw [← lnPhiLo_eq f, ← lnPhiHi_eq f]
    exact outOf_spec f _ _ _ _ _ (mix_aa2_length ..) (by rw [comps_x tk gs xs (hxl.trans hlen.symm).le, hxs])

/-- pressure-given mode: the returned molar volume is the solver's root for the (floored) pressure -/
theorem calcPR_pressure_mode (f : TransFns Rat) (tab : List ((String × String) × Rat)) (search : Bool)
    (gs : List (Gas Rat)) (moles : List Rat) (p tk : Rat) :
    letI := ratOps f
    ∀ o, calcPR tab search gs moles p tk 0 = some o →
      o.p = (if p < 1 / 10000000000 then 1 / 10000000000 else p) ∧ o.vm = vmOfP (gasR * tk) o.bsum o.asum o.p := by
  letI := ratOps f
  intro o h
  unfold calcPR at h
  split at h
  · cases h
  · cases h
    have hz : isZero (0 : Rat) = true := (isZero_iff f 0).mpr rfl
    simp only [hz, if_true]
    exact ⟨rfl, rfl⟩

/-- volume-given mode without the three-root search (`iterations ≤ 0`): the pressure is the Peng–Robinson pressure at
the given molar volume, or 1 when that is not positive -/
theorem calcPR_volume_mode (f : TransFns Rat) (tab : List ((String × String) × Rat))
    (gs : List (Gas Rat)) (moles : List Rat) (p tk vm : Rat) (hvm : vm ≠ 0) :
    letI := ratOps f
    ∀ o, calcPR tab false gs moles p tk vm = some o →
      o.vm = vm ∧ ((0 < prP (gasR * tk) o.bsum o.asum vm ∧ o.p = prP (gasR * tk) o.bsum o.asum vm) ∨
                   (prP (gasR * tk) o.bsum o.asum vm ≤ 0 ∧ o.p = 1)) := by
  letI := ratOps f
  intro o h
  unfold calcPR at h
  split at h
  · cases h
  · cases h
    have hz : ¬ isZero vm = true := (isZero_iff f vm).not.mpr hvm
    simp only [hz, Bool.false_eq_true, ↓reduceIte, pOfVm_eq_searchP, searchP_false, outOf]
    exact ⟨trivial, (lt_or_ge 0 _).imp (fun hp => ⟨hp, if_neg (not_le.mpr hp)⟩) (fun hp => ⟨hp, if_pos hp⟩)⟩

/-- with the search on, the pressure is the EOS pressure at the given volume, or at the volume `v1` the three-root search
stops at, or 1 -/
theorem pOfVm_cases (f : TransFns Rat) (search : Bool) (rt b a v : Rat) :
    letI := ratOps f
    pOfVm search rt b a v = prP rt b a v ∨ pOfVm search rt b a v = 1 ∨
    ∃ v1, pOfVm search rt b a v = prP rt b a v1 := by
  letI := ratOps f
  rw [pOfVm_eq_searchP]
  split_ifs
  · exact Or.inr (Or.inl rfl)
  · rcases searchP_cases search rt b a v (prP rt b a v) with h | ⟨v1, h⟩
    · exact Or.inl h
    · exact Or.inr (Or.inr ⟨v1, h⟩)

example : (letI := ratOps idFns; fractions [(1 : Rat), 0, 3]) = some [1 / 4, 0, 3 / 4] := by decide +kernel

/-! ## 8. binary interaction factor; the doubling loop of `calc_PR()` (gases.cpp) -/

/-- the hard-coded table and the map lookup are symmetric in the two names when the map is -/
theorem binaryFactor_symm (f : TransFns Rat) (tab : List ((String × String) × Rat)) (n1 n2 : String)
    (hsym : ∀ a b, lookupK tab a b = lookupK tab b a) :
    letI := ratOps f
    binaryFactor tab n1 n2 = binaryFactor tab n2 n1 := by
  letI := ratOps f
  unfold binaryFactor
  rw [hsym n1 n2]
  cases lookupK tab n2 n1 with
  | some k => rfl
  | none =>
    by_cases h1 : n1 = "H2O(g)" <;> by_cases h2 : n2 = "H2O(g)"
    · subst h1; subst h2; rfl
    · subst h1; simp [h2]
    · subst h2; simp [h1]
    · simp [h1, h2]

/-- the run-time test `symmetricTab` (evaluated by `pmodel gas` on the map read back from the engine) discharges the
hypothesis of `binaryFactor_symm` -/
theorem symmetricTab_sound (tab : List ((String × String) × Rat)) (h : symmetricTab tab = true) :
    ∀ a b, lookupK tab a b = lookupK tab b a := by
  have hall : ∀ e ∈ tab, lookupK tab e.1.1 e.1.2 = lookupK tab e.1.2 e.1.1 :=
    fun e he => by simpa using List.all_eq_true.mp h e he
  -- a hit comes from an entry of the map, and the test has compared that entry with its reverse
  have hdir : ∀ a b k, lookupK tab a b = some k → lookupK tab b a = some k := by
    intro a b k h1
    obtain ⟨e, he, rfl, rfl⟩ := lookupK_mem tab a b k h1
    rw [← hall e he, h1]
  exact fun a b => Option.ext fun k => ⟨hdir a b k, hdir b a k⟩

/-- the binary factor the mixing rule uses is symmetric in the two gases for every map that passes the run-time test -/
theorem binaryFactor_symm_of_check (f : TransFns Rat) (tab : List ((String × String) × Rat)) (n1 n2 : String)
    (h : symmetricTab tab = true) :
    letI := ratOps f
    binaryFactor tab n1 n2 = binaryFactor tab n2 n1 :=
  binaryFactor_symm f tab n1 n2 (symmetricTab_sound tab h)

example : symmetricTab [(("CO2(g)", "CH4(g)"), (1 / 10 : Rat)), (("CH4(g)", "CO2(g)"), 1 / 10)] = true := by decide +kernel
example : symmetricTab [(("CO2(g)", "CH4(g)"), (1 / 10 : Rat))] = false := by decide +kernel

example : (letI := ratOps idFns; binaryFactor ([] : List ((String × String) × Rat)) "H2O(g)" "CO2(g)") = 81 / 100 := by
  decide +kernel
example : (letI := ratOps idFns; binaryFactor ([] : List ((String × String) × Rat)) "N2(g)" "H2O(g)") = 51 / 100 := by
  decide +kernel
example : (letI := ratOps idFns; binaryFactor [(("H2O(g)", "CO2(g)"), (19 / 100 : Rat))] "H2O(g)" "CO2(g)") = 81 / 100 := by
  decide +kernel
example : (letI := ratOps idFns; binaryFactor ([] : List ((String × String) × Rat)) "CO2(g)" "N2(g)") = 1 := by
  decide +kernel
/-- the loop stops at the first `k` for which the pressure at `v0·2^k` is positive (or when the fuel is spent); that volume
and its pressure are what it returns -/
theorem doubleLoop_spec (f : TransFns Rat) (rt b a : Rat) (fuel : Nat) (v0 : Rat) :
    letI := ratOps f
    ∃ k : Nat, k ≤ fuel ∧ (doubleLoop rt b a fuel v0).2 = v0 * 2 ^ k ∧
      (doubleLoop rt b a fuel v0).1 = prP rt b a (v0 * 2 ^ k) ∧
      (∀ j, j < k → prP rt b a (v0 * 2 ^ j) ≤ 0) ∧
      (k < fuel → 0 < prP rt b a (v0 * 2 ^ k)) := by
  letI := ratOps f
  induction fuel generalizing v0 with
  | zero => exact ⟨0, le_rfl, by simp [doubleLoop], by simp [doubleLoop], nofun, nofun⟩
  | succ n ih =>
    rw [doubleLoop]
    split_ifs with hp
    · -- the loop goes on from `2·v0`: its `k` doublings are doublings `1 … k+1` of `v0`
      obtain ⟨k, hk, h1, h2, h3, h4⟩ := ih (v0 * 2)
      have e (j : Nat) : v0 * 2 * 2 ^ j = v0 * 2 ^ (j + 1) := by rw [pow_succ', mul_assoc]
      simp only [e] at h1 h2 h3 h4
      refine ⟨k + 1, Nat.succ_le_succ hk, h1, h2, fun j hj => ?_, fun h => h4 (Nat.lt_of_succ_lt_succ h)⟩
      cases j with
      | zero => rwa [pow_zero, mul_one]
      | succ j => exact h3 j (Nat.lt_of_succ_lt_succ hj)
    · exact ⟨0, Nat.zero_le _, by simp, by simp, nofun, fun _ => by simpa using hp⟩

/-- the doubling loop on RT = 1, b = 1/10, a = 2: the pressure is negative at V = 1/5, 2/5, 4/5, 8/5 and positive at 16/5 -/
example : (letI := ratOps idFns; (doubleLoop (1 : Rat) (1 / 10) 2 5 (1 / 5)).2) = 16 / 5 := by
  decide +kernel

/-! ## 9. the same model over ℝ with Mathlib's functions: the solver's hypotheses are discharged

`realOps` (Lemmas/Gas.lean) instantiates `sqrt := Real.sqrt`, `cbrt x := x ^ (1/3)` (the code's `pow(x, one_3)`),
`cos := Real.cos`, `acos := Real.arccos`.  The branch guards make every argument of `cbrt` non-negative and put the
argument of `arccos` in [-1, 1], so the pointwise laws assumed in section 2 are theorems here. -/

/-- real numbers, Mathlib's `√`, `x^(1/3)`, `cos`, `arccos`: for every temperature term, mixture parameters and
pressure the molar volume `calc_PR` returns is an exact root of the cubic it solves — no hypothesis on the functions -/
theorem cardano_real (rt b a p : ℝ) :
    letI := realOps
    (cubicOf rt b a p).eval (vmOfP rt b a p) = 0 :=
  cubic_root_real _

/-- hence, over the reals, the returned volume satisfies the Peng–Robinson equation itself wherever its denominators
do not vanish -/
theorem pr_holds_at_returned_volume_real (rt b a p : ℝ) :
    letI := realOps
    p ≠ 0 → vmOfP rt b a p - b ≠ 0 →
    vmOfP rt b a p * (vmOfP rt b a p + 2 * b) - b * b ≠ 0 →
    p = prP rt b a (vmOfP rt b a p) :=
  fun hp hv hd => (prP_eq_iff_root realFns rt b a p _ hp hv hd).mpr (cardano_real rt b a p)

/-- volume-given mode over the reals, search off: the pressure `calc_PR` uses is the Peng–Robinson pressure at the given
molar volume whenever that is positive — the equation of state holds by construction -/
theorem volume_mode_real (rt b a v : ℝ) :
    letI := realOps
    0 < prP rt b a v → pOfVm false rt b a v = prP rt b a v := by
  letI := realOps
  intro h
  rw [pOfVm_eq_searchP, searchP_false, if_neg (not_le.mpr (by rwa [lit_cast realFns, Rat.cast_zero]))]

/-! ## 10. the fixed-volume iteration, the gas rows of the convergence gate, and what they guarantee

`calc_gas_pressures` (fixed volume, Peng–Robinson) damps the molar volume, takes `P` from the equation of state at that
internal `V_m` and sets `n_i = p_soln_i / P · V / V_m`; `residuals` refuses convergence only while successive pressures
differ by more than 0.001 atm (the known departure `fixedV-vm-iteration-accepted-early`). -/

/-- the sum of the fixed-volume mole numbers: `n = (Σ p_soln / P) · V / V_m` -/
theorem fixedV_moles_total (f : TransFns Rat) (ps : List Rat) (totalP vol vm : Rat) :
    letI := ratOps f
    total (fixedVPRMoles ps totalP vol vm) = total ps / totalP * vol / vm := by
  rw [total_eq_sum, total_eq_sum]
  show (ps.map fun p => p / totalP * vol / vm).sum = _
  simp only [div_eq_mul_inv, List.sum_map_mul_right, List.map_id']

/-- consequence for the converged numerical fixed-volume state (the known departure
`fixedV-numerical-negative-PR-pressure`): the mole numbers are `p_soln/P · V / v_m` with the *stored* molar volume;
if that is `2^k` times the true molar volume `V/n`, the equilibrium partial pressures sum to `2^k · P`, not to `P` -/
theorem fixedV_doubled_vm (f : TransFns Rat) (ps : List Rat) (totalP vol n : Rat) (k : Nat)
    (hP : totalP ≠ 0) (hv : vol ≠ 0) (hn : n ≠ 0) :
    letI := ratOps f
    total (fixedVPRMoles ps totalP vol (vol / n * 2 ^ k)) = n → total ps = 2 ^ k * totalP := by
  rw [fixedV_moles_total]
  intro h
  field_simp at h
  linarith

/-- with the true molar volume (`k = 0`) the same bookkeeping gives Σ p = P: the state is consistent -/
theorem fixedV_consistent (f : TransFns Rat) (ps : List Rat) (totalP vol n : Rat)
    (hP : totalP ≠ 0) (hv : vol ≠ 0) (hn : n ≠ 0) :
    letI := ratOps f
    total (fixedVPRMoles ps totalP vol (vol / n)) = n → total ps = totalP := by
  simpa only [pow_zero, mul_one, one_mul] using fixedV_doubled_vm f ps totalP vol n 0 hP hv hn

/-- structure of every fixed-volume Peng–Robinson state the engine can report (whether or not its V_m iteration has reached
the fixed point): with `r = Σ p_soln / P`, the internal molar volume is `r` times the reported one `V / n`, and every
equilibrium partial pressure is `r` times the mole-fraction share of `P` -/
theorem fixedV_common_ratio (f : TransFns Rat) (ps : List Rat) (totalP vol vm : Rat)
    (hP : totalP ≠ 0) (hv : vol ≠ 0) (hvm : vm ≠ 0) (hs : (letI := ratOps f; total ps) ≠ 0) :
    letI := ratOps f
    let n := total (fixedVPRMoles ps totalP vol vm)
    let r := total ps / totalP
    vm = r * (vol / n) ∧
    ∀ p ∈ ps, p = r * ((p / totalP * vol / vm) / n * totalP) := by
  letI := ratOps f
  intro n r
  have hn : n = r * vol / vm := fixedV_moles_total f ps totalP vol vm
  have hr : r ≠ 0 := div_ne_zero hs hP
  rw [hn]
  constructor
  · field_simp
  · intro p _
    field_simp

/-- at a fixed point of the V_m iteration (`V_m = V / n`) with `P` the equation-of-state pressure at `V_m`, the reported
`P, V, T, n` satisfy the equation of state, Σ p_soln = P, and every equilibrium partial pressure is the share `x_i · P` -/
theorem fixedV_fixed_point_eos (f : TransFns Rat) (rt b a : Rat) (ps : List Rat) (totalP vol vm : Rat)
    (hP : totalP ≠ 0) (hv : vol ≠ 0) (hvm : vm ≠ 0) (hs : (letI := ratOps f; total ps) ≠ 0) :
    letI := ratOps f
    let n := total (fixedVPRMoles ps totalP vol vm)
    totalP = prP rt b a vm → vm = vol / n →
    totalP = prP rt b a (vol / n) ∧ total ps = totalP ∧ ∀ p ∈ ps, p = (p / totalP * vol / vm) / n * totalP := by
  letI := ratOps f
  intro n hp hfix
  obtain ⟨h1, h2⟩ := fixedV_common_ratio f ps totalP vol vm hP hv hvm hs
  -- `V_m = r·(V/n)` and `V_m = V/n` leave `r = 1`
  rw [← hfix] at h1
  have hr : total ps / totalP = 1 := mul_right_cancel₀ hvm (h1.symm.trans (one_mul vm).symm)
  refine ⟨hfix ▸ hp, (div_eq_one_iff_eq hP).mp hr, fun p hp' => ?_⟩
  have := h2 p hp'
  rwa [hr, one_mul] at this

/-- the damped update: `V' = (w V + U)/(w + 1)` leaves `U − V' = w (V' − V)`: the distance of the new internal molar volume
from `U = V/n` is `w` times the step just taken -/
theorem damp_distance (w vOld u : Rat) (hw : w + 1 ≠ 0) :
    u - (w * vOld + u) / (w + 1) = w * ((w * vOld + u) / (w + 1) - vOld) := by
  field_simp; ring

/-- what the 0.001 atm pressure test bounds, in the ideal limit (`a = b = 0`, `P = RT/V`): after a damped step from `V`
(pressure `P`) with weight `w`, `Σ p_soln − P' = w (P' − P) · Σ p_soln / P`.  The gate `|P' − P| ≤ 0.001` therefore bounds
`|Σ p_soln − P'|` by `w · 0.001 · Σp/P` atm — an ABSOLUTE bound: relative 1e-4 only above ~10 atm, 10 % at 0.01 atm -/
theorem ideal_gate_identity (rt ps p w : Rat) (hrt : rt ≠ 0) (hps : ps ≠ 0) (hp : p ≠ 0) (hw : w + 1 ≠ 0)
    (hden : p + w * ps ≠ 0) :
    let v' := (w * (rt / p) + rt / ps) / (w + 1)
    ps - rt / v' = w * (rt / v' - p) * ps / p := by
  intro v'
  -- the claim is `P'·(p + w·ps) = (w + 1)·p·ps` for the new pressure `P' = RT/V'`, rearranged
  have hv : v' = rt * (p + w * ps) / (p * ps * (w + 1)) := by simp only [v']; field_simp; ring
  have key : rt / v' * (p + w * ps) = (w + 1) * p * ps := by
    rw [hv, div_div_eq_mul_div, mul_div_mul_left _ _ hrt, div_mul_cancel₀ _ hden]; ring
  rw [eq_div_iff hp]
  linear_combination -key

/-- the pressure test alone does not keep the reported state within 1e-4 of the equation of state: ideal limit, RT = 24,
Σ p_soln = 0.012 atm, previous internal V_m = 1900: the new V_m = 1950 gives P' = 24/1950, the test passes
(|P' − P| = 0.00032 ≤ 0.001) and Σ p_soln / P' = 0.975 — the reported V/n differs from the internal V_m by 2.5 % -/
theorem gate_does_not_bound_eos :
    letI := ratOps idFns
    let rt : Rat := 24
    let ps : Rat := 12 / 1000
    let pOld := prP rt 0 0 1900
    let vm := dampVm (1900 : Rat) (rt / ps) 1
    let pNew := prP rt 0 0 vm
    vm = 1950 ∧ pressureTestFails pOld pNew pNew = false ∧ ps / pNew = 39 / 40 := by
  decide +kernel

end PhreeqcVerif.C19
