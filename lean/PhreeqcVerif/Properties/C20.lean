import PhreeqcVerif.Lemmas.Surface
import PhreeqcVerif.Gen.SurfConst
/-! # C20 — surface complexation obeys site balance, electrostatic mass action, charge laws

Theorems about `Model/Surface.lean` (the model of `residuals`/`check_residuals`/`model`, `add_potential_factor`,
`add_cd_music_factors`, `gammas` case 6, `molalities`, `diff_layer_total`).  All statements are over `Rat` with
*uninterpreted* `sqrt sinh exp ln log10` (`ratOps f`, every `f`): nothing about the transcendental functions is used
except what a hypothesis states.  The tie to the C++ is the correspondence check `tools/props/c20.py`
(`pmodel surface` executes the same definitions on `Float` against the in-process dump of real runs).
A bold name at the head of a docstring is the theorem of DESIGN.md §5 (C20, **T**) of which the declaration is a part. -/
namespace PhreeqcVerif.Surface
open NumOps

/-! ## the constants of the model are the constants of the source (translator `tools/gen_surfconst.py`) -/

/-- `Gen/SurfConst.lean` is regenerated from `global_structures.h`, `model.cpp`, `prep.cpp` on every run; the model's
Faraday / gas / permittivity constants, the `8` of the Gouy–Chapman constant, the `8000` of `f_sinh` and the `0.5` of
`alpha_global` (integrate.cpp), the `0.5` of the CD-MUSIC diffuse-layer
charge, the `-2` of the psi token and the `2` of the CCM row are exactly the extracted ones -/
theorem source_constants (f : TransFns Rat) (epsr tk x sum cap la : Rat) (aq : List (Rat × Rat)) :
    letI := ratOps f
    Gen.SurfConst.recognised = true ∧
    (F_C_MOL : Rat) = Gen.SurfConst.F_C_MOL ∧ (F_KJ_V_EQ : Rat) = Gen.SurfConst.F_KJ_V_EQ ∧
    (R_KJ_DEG_MOL : Rat) = Gen.SurfConst.R_KJ_DEG_MOL ∧ (EPSILON_ZERO : Rat) = Gen.SurfConst.EPSILON_ZERO ∧
    sinhConstant epsr tk = f.sqrt (Gen.SurfConst.GC_FACTOR * epsr * Gen.SurfConst.EPSILON_ZERO *
      (Gen.SurfConst.R_KJ_DEG_MOL * 1000) * tk * 1000) ∧
    fSinh epsr tk cap = f.sqrt (Gen.SurfConst.FSINH_FACTOR * epsr * Gen.SurfConst.EPSILON_ZERO *
      (Gen.SurfConst.R_KJ_DEG_MOL * 1000) * tk * cap) ∧
    alphaConst epsr tk = f.sqrt (epsr * Gen.SurfConst.EPSILON_ZERO * (Gen.SurfConst.R_KJ_DEG_MOL * 1000) * 1000 * tk *
      Gen.SurfConst.ALPHA_FACTOR) ∧
    (0 ≤ sum → 0 ≤ x → cdSigmaDDL epsr tk x sum = Gen.SurfConst.CD_DDL_FACTOR * sinhConstant epsr tk * f.sqrt sum) ∧
    psiCoef aq = Gen.SurfConst.PSI_COEF * aq.foldl (fun acc cz => acc + cz.2 * cz.1) 0 ∧
    ccmSigmaLa cap tk la = cap * la * Gen.SurfConst.CCM_FACTOR * Gen.SurfConst.R_KJ_DEG_MOL * tk * f.ln 10 / Gen.SurfConst.F_KJ_V_EQ := by
  letI := ratOps f
  have hF : (F_C_MOL : Rat) = Gen.SurfConst.F_C_MOL := (F_C_MOL_eq f).trans (by decide +kernel)
  have hK : (F_KJ_V_EQ : Rat) = Gen.SurfConst.F_KJ_V_EQ := (F_KJ_V_EQ_eq f).trans (by decide +kernel)
  have hR : (R_KJ_DEG_MOL : Rat) = Gen.SurfConst.R_KJ_DEG_MOL := (R_KJ_DEG_MOL_eq f).trans (by decide +kernel)
  have hE : (EPSILON_ZERO : Rat) = Gen.SurfConst.EPSILON_ZERO := (EPSILON_ZERO_eq f).trans (by decide +kernel)
  refine ⟨by decide, hF, hK, hR, hE, ?_, ?_, ?_, ?_, ?_, ?_⟩
  · rw [← hE, ← hR, show Gen.SurfConst.GC_FACTOR = 8 by decide +kernel]
    rfl
  · rw [← hE, ← hR, show Gen.SurfConst.FSINH_FACTOR = 8000 by decide +kernel]
    rfl
  · rw [← hE, ← hR, show Gen.SurfConst.ALPHA_FACTOR = 1 / 2 by decide +kernel]
    rfl
  · intro hs hx
    rw [show Gen.SurfConst.CD_DDL_FACTOR = 1 / 2 by decide +kernel]
    simp only [cdSigmaDDL, rat_ops, Rat.not_lt.2 hs, Rat.not_lt.2 hx, if_false]
  · rw [show Gen.SurfConst.PSI_COEF = -2 by decide +kernel]
    rfl
  · rw [← hK, ← hR, show Gen.SurfConst.CCM_FACTOR = 2 by decide +kernel]
    rfl

/-! ## the gate: a call of `model()` that completes without error ends in a state whose surface rows pass -/

/-- a row for which `check_residuals` would print an ERROR is a row that `residuals` does not accept: after
`residuals` reported CONVERGED no surface row can raise the ERROR of `check_residuals` -/
theorem checkError_imp_fails (f : TransFns Rat) (e : Env Rat) (r : Row Rat) :
    letI := ratOps f
    r.checkError e = true → r.fails e = true := by
  intro h
  cases r with
  | site m fs =>
    -- both tests exempt the same rows, and otherwise compare with the same threshold on either side of `minRel`
    dsimp only [Row.checkError, Row.fails] at h ⊢
    split at h
    · cases h
    · rename_i hex
      by_cases hm : m ≤ e.minRel
      · rw [if_pos hm]
        simpa only [decide_eq_true hm, decide_eq_false (Rat.not_lt.2 hm), Bool.true_and, Bool.false_and, Bool.or_false] using h
      · rw [if_neg hm, if_neg hex]
        simpa only [decide_eq_false hm, decide_eq_true (Rat.not_le.1 hm), Bool.false_and, Bool.true_and, Bool.false_or] using h
  | _ => exact h

/-- SURFACE row that passes: `|sites - Σ species| ≤ tol·sites`, or the residual is below `ineq_tol` (1e-15 mol)
and below 1 % of the sites — the exemption that `residuals` and `check_residuals` both make -/
theorem site_pass (f : TransFns Rat) (e : Env Rat) (moles fs : Rat) :
    letI := ratOps f
    (Row.site moles fs).fails e = false → e.minRel < moles →
      ((-(e.tol * moles) ≤ moles - fs ∧ moles - fs ≤ e.tol * moles) ∨
       (-(e.ineqTol) < moles - fs ∧ moles - fs < e.ineqTol ∧ -(moles / 100) < moles - fs ∧ moles - fs < moles / 100)) := by
  intro h hm
  dsimp only [Row.fails] at h
  rw [if_neg (Rat.not_le.2 hm)] at h
  split at h
  · rename_i hex
    rw [Bool.and_eq_true, absLt_eq_true, absLt_eq_true, rat_lit, Rat.div_def 1, Rat.one_mul, Rat.mul_comm,
      ← Rat.div_def] at hex
    exact .inr ⟨hex.1.1, hex.1.2, hex.2⟩
  · exact .inl ((absGt_eq_false f _ _).1 h)

/-- SURFACE row with (almost) no sites left (`moles ≤ MIN_RELATED_SURFACE`): absolute test -/
theorem site_pass_small (f : TransFns Rat) (e : Env Rat) (moles fs : Rat) :
    letI := ratOps f
    (Row.site moles fs).fails e = false → moles ≤ e.minRel → (-(e.tol) ≤ moles - fs ∧ moles - fs ≤ e.tol) := by
  intro h hm
  dsimp only [Row.fails] at h
  rw [if_pos hm] at h
  exact (absGt_eq_false f _ _).1 h

/-- **gate_surface** (site balance).  For ANY solver step and iteration budget: if `model()` completes without error,
every SURFACE row of the final state balances the defined sites against the sum over the surface species within
`convergence_tolerance` relative (or within the sub-`ineq_tol` exemption of the code) -/
theorem gate_surface (f : TransFns Rat) (step : State Rat → State Rat) (n : Nat) (s s' : State Rat) :
    letI := ratOps f
    runModel step n s = some s' → ∀ moles fs, Row.site moles fs ∈ s'.rows → s'.env.minRel < moles →
      ((-(s'.env.tol * moles) ≤ moles - fs ∧ moles - fs ≤ s'.env.tol * moles) ∨
       (-(s'.env.ineqTol) < moles - fs ∧ moles - fs < s'.env.ineqTol ∧
         -(moles / 100) < moles - fs ∧ moles - fs < moles / 100)) := by
  intro h moles fs hr hm
  letI := ratOps f
  exact site_pass f s'.env moles fs (gate_rows step n s s' h _ hr).1 hm

/-- **gate_surface** (Gouy–Chapman row).  Completed without error ⇒ the charge density of the surface species equals
`sinh_constant·sqrt(mu)·sinh(F·ψ/2RT)` within `convergence_tolerance` (C/m², absolute — the tolerance of the code) -/
theorem gate_surface_ddl (f : TransFns Rat) (step : State Rat → State Rat) (n : Nat) (s s' : State Rat) :
    letI := ratOps f
    runModel step n s = some s' → ∀ g a la fs, Row.ddl g a la fs ∈ s'.rows → s'.env.minRel < g → 0 ≤ s'.env.minRel →
      (-(s'.env.tol) ≤ gcSigmaX s'.env.epsr s'.env.tk s'.env.mu (la * LOG_10) - sigmaOfCharge fs a g ∧
       gcSigmaX s'.env.epsr s'.env.tk s'.env.mu (la * LOG_10) - sigmaOfCharge fs a g ≤ s'.env.tol) := by
  intro h g a la fs hr hg h0
  letI := ratOps f
  exact guarded_row_pass f s'.env g _ hg h0 (gate_rows step n s s' h _ hr).1

/-- **gate_surface** (constant-capacitance row): `|C·ψ − σ(species)| ≤ tol` -/
theorem gate_surface_ccm (f : TransFns Rat) (step : State Rat → State Rat) (n : Nat) (s s' : State Rat) :
    letI := ratOps f
    runModel step n s = some s' → ∀ g a c la fs, Row.ccm g a c la fs ∈ s'.rows → s'.env.minRel < g → 0 ≤ s'.env.minRel →
      (-(s'.env.tol) ≤ ccmSigmaLa c s'.env.tk la - sigmaOfCharge fs a g ∧
       ccmSigmaLa c s'.env.tk la - sigmaOfCharge fs a g ≤ s'.env.tol) := by
  intro h g a c la fs hr hg h0
  letI := ratOps f
  exact guarded_row_pass f s'.env g _ hg h0 (gate_rows step n s s' h _ hr).1

/-- **gate_surface** (CD-MUSIC rows and every other charge row, given by its residual) -/
theorem gate_surface_cb (f : TransFns Rat) (step : State Rat → State Rat) (n : Nat) (s s' : State Rat) :
    letI := ratOps f
    runModel step n s = some s' → ∀ g res, Row.cb g res ∈ s'.rows → s'.env.minRel < g →
      (-(s'.env.tol) ≤ res ∧ res ≤ s'.env.tol) := by
  intro h g res hr hg
  letI := ratOps f
  exact charge_row_pass f s'.env g res hg (gate_rows step n s s' h _ hr).1

/-! ## the potential factor: rewritten equation with the psi token ⇔ electrostatic mass-action law -/

/-- **potential_factor_mass_action** (DDL and CCM).  Let `laPsi` be the log activity of the potential master species and
`ψ = laPsi·2·R·T·ln10/F` the potential the program reports.  The equation that `add_potential_factor` builds — the
database tokens plus the token `X_psi` with coefficient `-2·Δz` — evaluated as `molalities` does (`lm = lk − lg + Σ coef·la`)
gives exactly the electrostatic mass-action law `log a = log K + Σ ν·log a_j − Δz·F·ψ/(R·T·ln10)`, `a = γ·m` with
`lg = log10(equiv/sites)` -/
theorem potential_factor_mass_action (f : TransFns Rat) (lk lg tk laPsi dz : Rat) (toks : List (Tok Rat))
    (htk : tk ≠ 0) (hL : f.ln 10 ≠ 0) :
    letI := ratOps f
    lmOf lk lg (toks ++ [⟨-(2 : Rat) * dz, laPsi⟩]) + lg
      = laLaw lk (electroTerm tk dz (psiOfLa tk laPsi)) toks := by
  rw [lmOf_append_add, electroTerm_psiOfLa f tk dz laPsi htk hL]
  simp only [List.foldl_cons, List.foldl_nil, Rat.zero_add]

/-- the coefficient `add_potential_factor` computes is `-2·Δz` with `Δz = Σ coef·z` over the aqueous tokens -/
theorem psiCoef_eq (f : TransFns Rat) (aq : List (Rat × Rat)) :
    letI := ratOps f
    psiCoef aq = -(2 : Rat) * aq.foldl (fun acc cz => acc + cz.2 * cz.1) 0 :=
  rfl

/-- **potential_factor_mass_action** (CD-MUSIC).  Three potential masters with `la_k = −F·ψ_k/(R·T·ln10)` and the
coefficients `Δz0 Δz1 Δz2` that `add_cd_music_factors` appends give
`log a = log K + Σ ν·log a_j − (Δz0·ψ0 + Δz1·ψ1 + Δz2·ψ2)·F/(R·T·ln10)` -/
theorem cd_music_factor_mass_action (f : TransFns Rat) (lk lg tk la0 la1 la2 dz0 dz1 dz2 : Rat) (toks : List (Tok Rat))
    (htk : tk ≠ 0) (hL : f.ln 10 ≠ 0) :
    letI := ratOps f
    lmOf lk lg (toks ++ [⟨dz0, la0⟩, ⟨dz1, la1⟩, ⟨dz2, la2⟩]) + lg
      = laLaw lk (electroTermCD tk dz0 dz1 dz2 (psiOfLaCD tk la0) (psiOfLaCD tk la1) (psiOfLaCD tk la2)) toks := by
  rw [lmOf_append_add, electroTermCD_eq]
  simp only [electroTerm_psiOfLaCD f tk _ _ htk hL, List.foldl_cons, List.foldl_nil, Rat.zero_add]

/-- the two read-outs of a CD-MUSIC potential agree (`cd_psi` of `residuals` = EDL("psi")) -/
theorem cdPsi_eq_readout (f : TransFns Rat) (tk la : Rat) :
    letI := ratOps f
    cdPsi tk la = psiOfLaCD tk la := by
  simp only [cdPsi, psiOfLaCD]
  grind

/-! ## species written from a non-master parent: the rewriting rule of `trxn_add` -/

/-- the rule the model uses for the CD-MUSIC distribution of a substituted reaction is the one in the source
(`structures.cpp`, `trxn_add`: `trxn.dz[i] += coef * r.dz[i]`; the translator extracts the power of `coef`) -/
theorem source_trxn_add (f : TransFns Rat) (acc dz : Rat × Rat × Rat) (coef : Rat) :
    letI := ratOps f
    Gen.SurfConst.TRXN_DZ_COEF_POWER = 1 ∧
    trxnAddDz acc coef dz =
      (acc.1 + (Gen.SurfConst.TRXN_DZ_COEF_POWER * coef + (1 - Gen.SurfConst.TRXN_DZ_COEF_POWER)) * dz.1,
       acc.2.1 + (Gen.SurfConst.TRXN_DZ_COEF_POWER * coef + (1 - Gen.SurfConst.TRXN_DZ_COEF_POWER)) * dz.2.1,
       acc.2.2 + (Gen.SurfConst.TRXN_DZ_COEF_POWER * coef + (1 - Gen.SurfConst.TRXN_DZ_COEF_POWER)) * dz.2.2) := by
  have e : Gen.SurfConst.TRXN_DZ_COEF_POWER = 1 := by decide +kernel
  have hc : (1 : Rat) * coef + (1 - 1) = coef := by rw [Rat.one_mul, Rat.sub_self, Rat.add_zero]
  rw [e, hc]
  exact ⟨rfl, rfl⟩

/-- the effective distribution of a rewritten species is its own distribution plus
`Σ coefficient × distribution of the parent` in each plane -/
theorem rewrite_dz (f : TransFns Rat) (own : Rat × Rat × Rat) (ps : List (Rat × (Rat × Rat × Rat))) :
    letI := ratOps f
    rewriteDz own ps =
      (own.1 + (ps.map fun p => p.1 * p.2.1).sum, own.2.1 + (ps.map fun p => p.1 * p.2.2.1).sum,
       own.2.2 + (ps.map fun p => p.1 * p.2.2.2).sum) := by
  letI := ratOps f
  induction ps generalizing own with
  | nil => simp only [List.map_nil, List.sum_nil, Rat.add_zero]; rfl
  | cons p rest ih =>
    rw [rewriteDz, List.foldl_cons]
    exact (ih _).trans (by simp only [trxnAddDz, List.map_cons, List.sum_cons, Rat.add_assoc])

/-- the electrostatic term is linear in the distribution: term(own + c·parent) = term(own) + c·term(parent) -/
theorem electro_cd_linear (f : TransFns Rat) (tk c p0 p1 p2 : Rat) (own par : Rat × Rat × Rat) :
    letI := ratOps f
    electroTermCD tk (trxnAddDz own c par).1 (trxnAddDz own c par).2.1 (trxnAddDz own c par).2.2 p0 p1 p2
      = electroTermCD tk own.1 own.2.1 own.2.2 p0 p1 p2 + c * electroTermCD tk par.1 par.2.1 par.2.2 p0 p1 p2 := by
  simp only [electroTermCD, trxnAddDz]
  grind

/-- a species that obeys its mass-action law AS WRITTEN (from a parent, with its own
`-cd_music` numbers) while the parent obeys its own law, obeys the law written from the master with the summed log K and
the rewritten distribution — and conversely this is the only distribution for which both readings agree -/
theorem chain_mass_action (f : TransFns Rat) (tk c p0 p1 p2 lk lkp sRest sPar laSp laPar : Rat) (own par : Rat × Rat × Rat)
    (hpar : letI := ratOps f; laPar = lkp + sPar + electroTermCD tk par.1 par.2.1 par.2.2 p0 p1 p2)
    (hsp : letI := ratOps f; laSp = lk + c * laPar + sRest + electroTermCD tk own.1 own.2.1 own.2.2 p0 p1 p2) :
    letI := ratOps f
    laSp = (lk + c * lkp) + (c * sPar + sRest) +
      electroTermCD tk (trxnAddDz own c par).1 (trxnAddDz own c par).2.1 (trxnAddDz own c par).2.2 p0 p1 p2 := by
  have h := electro_cd_linear f tk c p0 p1 p2 own par
  rw [h, hsp, hpar]
  grind

/-! ## Gouy–Chapman: σ is odd and strictly increasing in ψ -/

/-- **gc_odd_monotone** (odd): `σ(−ψ) = −σ(ψ)` for any `sinh` that is odd -/
theorem gc_odd (f : TransFns Rat) (epsr tk mu psi : Rat) (hodd : ∀ x, f.sinh (-x) = -f.sinh x) :
    letI := ratOps f
    gcSigma epsr tk mu (-psi) = -gcSigma epsr tk mu psi := by
  letI := ratOps f
  show _ * sinh (halfReduced tk (-psi)) = -(_ * sinh (halfReduced tk psi))
  rw [halfReduced_neg, rat_sinh, rat_sinh, hodd, Rat.mul_neg]

/-- **gc_odd_monotone** (strictly increasing): for `T > 0`, positive `sinh_constant` and `sqrt(mu)`, and any strictly
increasing `sinh`, `ψ₁ < ψ₂ → σ(ψ₁) < σ(ψ₂)` -/
theorem gc_strict_mono (f : TransFns Rat) (epsr tk mu p q : Rat) (htk : 0 < tk)
    (hmono : ∀ x y, x < y → f.sinh x < f.sinh y)
    (hk : letI := ratOps f; 0 < sinhConstant epsr tk) (hmu : 0 < f.sqrt mu) (h : p < q) :
    letI := ratOps f
    gcSigma epsr tk mu p < gcSigma epsr tk mu q :=
  Rat.mul_lt_mul_of_pos_left (hmono _ _ (halfReduced_mono f tk p q htk h)) (Rat.mul_pos hk hmu)

/-- hence the potential is determined by the charge density: the Gouy–Chapman law is injective in ψ -/
theorem gc_injective (f : TransFns Rat) (epsr tk mu p q : Rat) (htk : 0 < tk)
    (hmono : ∀ x y, x < y → f.sinh x < f.sinh y)
    (hk : letI := ratOps f; 0 < sinhConstant epsr tk) (hmu : 0 < f.sqrt mu) :
    letI := ratOps f
    gcSigma epsr tk mu p = gcSigma epsr tk mu q → p = q := by
  intro heq
  letI := ratOps f
  have ne a b (hab : a < b) (he : gcSigma epsr tk mu a = gcSigma epsr tk mu b) : False :=
    Rat.lt_irrefl (he ▸ gc_strict_mono f epsr tk mu a b htk hmono hk hmu hab)
  exact Rat.le_antisymm (Rat.not_lt.1 fun h => ne q p h heq.symm) (Rat.not_lt.1 fun h => ne p q h heq)

/-- an odd law vanishes at ψ = 0 (point of zero charge ⇔ zero potential) -/
theorem gc_zero (f : TransFns Rat) (epsr tk mu : Rat) (hodd : ∀ x, f.sinh (-x) = -f.sinh x) :
    letI := ratOps f
    gcSigma epsr tk mu 0 = 0 := by
  have h := gc_odd f epsr tk mu 0 hodd
  simp only [Rat.neg_zero] at h
  grind

/-- the residual of the DDL row vanishes exactly when the species' charge density equals the law at the reported ψ -/
theorem ddl_resid_zero_iff (f : TransFns Rat) (epsr tk mu la fs a g : Rat) (htk : tk ≠ 0) :
    letI := ratOps f
    residDDL epsr tk mu la fs a g = 0 ↔ sigmaOfCharge fs a g = gcSigma epsr tk mu (psiOfLa tk la) := by
  letI := ratOps f
  rw [gcSigma, halfReduced_readout f tk la htk]
  exact Lean.Grind.AddCommGroup.sub_eq_zero_iff.trans eq_comm

/-! ## constant capacitance: σ = C·ψ -/

/-- the constant-capacitance law is linear in ψ -/
theorem ccm_linear (f : TransFns Rat) (cap a b p q : Rat) :
    letI := ratOps f
    ccmSigma cap (a * p + b * q) = a * ccmSigma cap p + b * ccmSigma cap q := by
  simp only [ccmSigma]
  grind

/-- with `C > 0` it is strictly increasing, so ψ = σ/C is determined by σ -/
theorem ccm_strict_mono (f : TransFns Rat) (cap p q : Rat) (hc : 0 < cap) (h : p < q) :
    letI := ratOps f
    ccmSigma cap p < ccmSigma cap q :=
  Rat.mul_lt_mul_of_pos_left h hc

theorem ccm_resid_zero_iff (f : TransFns Rat) (cap tk la fs a g : Rat) :
    letI := ratOps f
    residCCM cap tk la fs a g = 0 ↔ sigmaOfCharge fs a g = ccmSigma cap (psiOfLa tk la) := by
  rw [← ccm_readout]
  exact Lean.Grind.AddCommGroup.sub_eq_zero_iff.trans eq_comm

/-! ## CD-MUSIC: plane charges and capacitances -/

/-- When the three rows are within `tol`: the plane charges and the diffuse-layer charge sum to
zero within `tol`, and the two capacitor relations hold within `tol` -/
theorem cdmusic_charge_sum (f : TransFns Rat) (epsr tk area grams c0 c1 la0 la1 la2 f0 f1 f2 sc tol : Rat)
    (aq : List (Rat × Rat)) :
    letI := ratOps f
    let st := cdResiduals epsr tk area grams c0 c1 la0 la1 la2 f0 f1 f2 sc aq
    (-tol ≤ st.r0 ∧ st.r0 ≤ tol) → (-tol ≤ st.r1 ∧ st.r1 ≤ tol) → (-tol ≤ st.r2 ∧ st.r2 ≤ tol) →
      (-tol ≤ st.sigma0 + st.sigma1 + st.sigma2 + st.sigmaddl ∧ st.sigma0 + st.sigma1 + st.sigma2 + st.sigmaddl ≤ tol) ∧
      (-tol ≤ st.sigma0 - c0 * (cdPsi tk la0 - cdPsi tk la1) ∧ st.sigma0 - c0 * (cdPsi tk la0 - cdPsi tk la1) ≤ tol) ∧
      (-tol ≤ (st.sigma0 + st.sigma1) - c1 * (cdPsi tk la1 - cdPsi tk la2) ∧
        (st.sigma0 + st.sigma1) - c1 * (cdPsi tk la1 - cdPsi tk la2) ≤ tol) := by
  intro st h0 h1 h2
  exact ⟨h2, h0, h1⟩

/-- with exact rows, eliminating ψ₁: `ψ₀ − ψ₂ = σ₀/C₁ + (σ₀+σ₁)/C₂` -/
theorem cdmusic_exact (f : TransFns Rat) (epsr tk area grams c0 c1 la0 la1 la2 f0 f1 f2 sc : Rat)
    (aq : List (Rat × Rat)) (hc0 : c0 ≠ 0) (hc1 : c1 ≠ 0) :
    letI := ratOps f
    let st := cdResiduals epsr tk area grams c0 c1 la0 la1 la2 f0 f1 f2 sc aq
    st.r0 = 0 → st.r1 = 0 → st.r2 = 0 →
      st.sigma0 + st.sigma1 + st.sigma2 = -st.sigmaddl ∧
      cdPsi tk la0 - cdPsi tk la2 = st.sigma0 / c0 + (st.sigma0 + st.sigma1) / c1 := by
  intro st h0 h1 h2
  letI := ratOps f
  -- the rows are `r0 = σ₀ − C₁(ψ₀−ψ₁)`, `r1 = σ₀+σ₁ − C₂(ψ₁−ψ₂)`, `r2 = σ₀+σ₁+σ₂+σ_ddl` by definition
  change st.sigma0 - c0 * (cdPsi tk la0 - cdPsi tk la1) = 0 at h0
  change st.sigma0 + st.sigma1 - c1 * (cdPsi tk la1 - cdPsi tk la2) = 0 at h1
  change st.sigma0 + st.sigma1 + st.sigma2 + st.sigmaddl = 0 at h2
  clear_value st
  constructor
  · exact Rat.add_right_cancel _ (h2.trans (Rat.neg_add_cancel _).symm)
  · rw [Lean.Grind.AddCommGroup.sub_eq_zero_iff.1 h1, Lean.Grind.AddCommGroup.sub_eq_zero_iff.1 h0, Rat.mul_comm c0,
      Rat.mul_comm c1, Rat.mul_div_cancel hc0, Rat.mul_div_cancel hc1]
    grind  -- `ψ₀ − ψ₂ = (ψ₀ − ψ₁) + (ψ₁ − ψ₂)`

/-- the plane-0 charge counts the reference charge of all sites plus the Δz₀ of the species:
`σ₀·A/F = Σ sites·z(master) + Σ Δz₀·moles` -/
theorem cdmusic_sigma0 (f : TransFns Rat) (epsr tk area grams c0 c1 la0 la1 la2 f0 f1 f2 sc : Rat)
    (aq : List (Rat × Rat)) (hA : area * grams ≠ 0) :
    letI := ratOps f
    (cdResiduals epsr tk area grams c0 c1 la0 la1 la2 f0 f1 f2 sc aq).sigma0 * (area * grams) / F_C_MOL = f0 + sc :=
  sigmaOfCharge_inv f (f0 + sc) area grams hA

/-! ## explicit diffuse layer: the ion excess balances the surface charge -/

/-- With an explicit diffuse layer the row's function is `f = q_surface + q_DL`
(`mb_for_species_surf` sums `z·moles` of the surface species, `mb_for_species_aq` sums `z·g_moles` of the diffuse
layer into the same unknown) and its residual is `−f`.  If the row passes, the diffuse-layer excess equals
`−σ·A/F` within `tol` moles of charge -/
theorem dl_charge_neutral (f : TransFns Rat) (e : Env Rat) (grams area qs qdl sigma : Rat)
    (hg : e.minRel < grams) (h0 : 0 ≤ e.minRel) (hA : area * grams ≠ 0)
    (hsig : letI := ratOps f; sigma = sigmaOfCharge qs area grams) :
    letI := ratOps f
    (Row.dl grams (qs + qdl)).fails e = false →
      (-(e.tol) ≤ qdl + sigma * (area * grams) / F_C_MOL ∧ qdl + sigma * (area * grams) / F_C_MOL ≤ e.tol) := by
  intro h
  have hp : -e.tol ≤ -(qs + qdl) ∧ -(qs + qdl) ≤ e.tol := guarded_row_pass f e grams _ hg h0 h
  rw [hsig, sigmaOfCharge_inv f qs area grams hA, Rat.add_comm]
  exact ⟨Rat.neg_le_iff.1 hp.2, Rat.neg_le_neg_iff.1 hp.1⟩

/-- the same through the gate of a completed `model()` call -/
theorem gate_surface_dl (f : TransFns Rat) (step : State Rat → State Rat) (n : Nat) (s s' : State Rat)
    (grams area qs qdl : Rat) :
    letI := ratOps f
    runModel step n s = some s' → Row.dl grams (qs + qdl) ∈ s'.rows → s'.env.minRel < grams → 0 ≤ s'.env.minRel →
      area * grams ≠ 0 →
      (-(s'.env.tol) ≤ qdl + sigmaOfCharge qs area grams * (area * grams) / F_C_MOL ∧
        qdl + sigmaOfCharge qs area grams * (area * grams) / F_C_MOL ≤ s'.env.tol) := by
  intro h hr hg h0 hA
  letI := ratOps f
  exact dl_charge_neutral f s'.env grams area qs qdl _ hg h0 hA rfl (gate_rows step n s s' h _ hr).1

/-! ## diffuse-layer composition: Donnan approximation (`calc_psi_avg`, `calc_all_donnan`) -/

/-- The quantity `calc_psi_avg` drives to zero is `surf_chrg_eq` plus the charge of the
participating ions inside the Donnan volume.  So at a root (`fd = 0`) the diffuse layer holds exactly
`−surf_chrg_eq = −A·f_sinh·sinh(F·ψ/2RT)/F`: the Donnan layer balances the Gouy–Chapman charge at the reported ψ;
within `ε` when `|fd| ≤ ε` -/
theorem donnan_charge_neutral (f : TransFns Rat) (sq ratio eps : Rat) (oc : Bool) (groups : List (Rat × Rat)) (p : Rat) :
    letI := ratOps f
    (-eps ≤ (donnanFd sq ratio oc groups p).1 ∧ (donnanFd sq ratio oc groups p).1 ≤ eps) →
      (-eps ≤ donnanCharge sq ratio oc f.exp groups p + sq ∧ donnanCharge sq ratio oc f.exp groups p + sq ≤ eps) := by
  intro h
  rwa [donnanFd_fst, Rat.add_comm] at h

theorem donnan_charge_neutral_exact (f : TransFns Rat) (sq ratio : Rat) (oc : Bool) (groups : List (Rat × Rat)) (p : Rat) :
    letI := ratOps f
    (donnanFd sq ratio oc groups p).1 = 0 → donnanCharge sq ratio oc f.exp groups p = -sq := by
  intro h
  rw [donnanFd_fst] at h
  exact Rat.add_left_cancel sq (h.trans (Rat.add_neg_cancel sq).symm)

/-- Boltzmann factor: the Donnan excess factor `g(z) = ratio·(exp(cd_m·z·p) − 1)` means: concentration in the
layer / concentration in the free solution `= (g + ratio)/ratio = exp(cd_m·z·p)` — it depends on the charge number only -/
theorem donnan_boltzmann (f : TransFns Rat) (ratio cdm z p : Rat) (hr : ratio ≠ 0) :
    letI := ratOps f
    (donnanBoltz ratio cdm z p + ratio) / ratio = f.exp (cdm * z * p) := by
  simp only [donnanBoltz, rat_ops]
  grind

/-- for any `exp` that turns sums into products: the enrichment of charge `z₁+z₂` is the product of the enrichments,
and a neutral species is not enriched (`g(0) = 0`) -/
theorem donnan_boltzmann_mul (f : TransFns Rat) (ratio cdm z1 z2 p : Rat) (hr : ratio ≠ 0)
    (hexp : ∀ a b, f.exp (a + b) = f.exp a * f.exp b) (h0 : f.exp 0 = 1) :
    letI := ratOps f
    (donnanBoltz ratio cdm (z1 + z2) p + ratio) / ratio
        = ((donnanBoltz ratio cdm z1 p + ratio) / ratio) * ((donnanBoltz ratio cdm z2 p + ratio) / ratio) ∧
    donnanBoltz ratio cdm 0 p = 0 := by
  have a := donnan_boltzmann f ratio cdm (z1 + z2) p hr
  have b := donnan_boltzmann f ratio cdm z1 p hr
  have c := donnan_boltzmann f ratio cdm z2 p hr
  constructor
  · rw [a, b, c, Rat.mul_add, Rat.add_mul, hexp]
  · simp only [donnanBoltz, rat_ops, Rat.mul_zero, Rat.zero_mul, h0, Rat.sub_self]

/-- what `calc_all_donnan` stores is the Boltzmann value unless it is clipped, and the clipping keeps the content of
the layer positive: `g + ratio ≥ G_TOL·1e-3 > 0` (no negative concentrations in the layer) -/
theorem donnanG_content_pos (f : TransFns Rat) (sq ratio gtol cdm z p : Rat) (oc : Bool) (hg : 0 < gtol) :
    letI := ratOps f
    0 < donnanG sq ratio gtol cdm oc z p + ratio ∧
    (¬ (oc = true ∧ 0 < sq * z) → -ratio < donnanBoltz ratio cdm z p →
      donnanG sq ratio gtol cdm oc z p = donnanBoltz ratio cdm z p) := by
  letI := ratOps f
  constructor
  · -- whatever value is clipped: the result is above `-ratio` or is set to `-ratio + gtol/1000`
    dsimp only [donnanG]
    generalize (if oc = true ∧ lit 0 < sq * z then -ratio else _) = g1
    rw [rat_lit]
    split <;> grind
  · intro h1 h2
    simp only [donnanG, rat_lit, h1, if_false]
    exact if_neg (Rat.not_le.2 h2)

/-- charge carried into the layer by one species: `z·g_moles = (z·moles·erm)·(g + ratio)` — summing over the species of
one charge number gives `eq_z·(g(z) + ratio)`, the term of `donnanCharge` -/
theorem dl_species_charge (f : TransFns Rat) (z moles erm g ratio : Rat) :
    letI := ratOps f
    z * gMoles moles erm g ratio = (z * moles * erm) * (g + ratio) := by
  show z * (moles * erm * (g + ratio)) = _
  rw [← Rat.mul_assoc, ← Rat.mul_assoc]

/-! ## sites related to a kinetic reactant over a history of calculations -/

/-- after `n` calculations the sites differ from `proportion × amount of the reactant` by at most
the initial difference plus `n·tolS` — the bound the check applies to kinetic-related surfaces over histories -/
theorem site_drift_bound (prop tolS : Rat) (steps : List (Rat × Rat)) (s m : Rat) (h : followsSteps prop tolS s m steps) :
    (s - prop * m) - steps.length * tolS ≤ (finalOf s m steps).2 - prop * (finalOf s m steps).1 ∧
    (finalOf s m steps).2 - prop * (finalOf s m steps).1 ≤ (s - prop * m) + steps.length * tolS := by
  induction steps generalizing s m with
  | nil => simp only [finalOf, List.length_nil]; grind
  | cons st rest ih =>
    -- what a step bounds is the change of the drift `sites − prop·reactant`
    have e : st.2 - (s - prop * (m - st.1)) = (st.2 - prop * st.1) - (s - prop * m) := by grind
    rw [List.length_cons, Rat.natCast_add, Rat.add_mul, Rat.natCast_ofNat, Rat.one_mul]
    exact drift_step _ _ _ _ _ (e ▸ h.1) (ih _ _ h.2)

example : followsSteps (1 / 5) (1 / 1000) (8 / 10) 4 [(5 / 2, 1 / 2), (1, 2001 / 10000)] := by
  simp only [followsSteps]; decide +kernel
example : (finalOf (8 / 10) 4 [(5 / 2, 1 / 2), (1, 2001 / 10000)]) = (1, 2001 / 10000) := by decide +kernel

/-! ## log K(T) and the activity convention of surface species -/

/-- `k_calc` returns the tabulated `log_k` at 25 °C and follows van 't Hoff elsewhere (no analytic expression):
`log K(T) = log K₀ − ΔH·(298.15 − T)/(ln10·R·T·298.15)` -/
theorem kCalc_vant_hoff (f : TransFns Rat) (k0 dh tk : Rat) :
    letI := ratOps f
    kCalc [k0, dh, 0, 0, 0, 0, 0, 0] tk = k0 - dh * (29815 / 100 - tk) / (f.ln 10 * (tk * (83147 / 10000000)) * (29815 / 100)) ∧
    kCalc [k0, dh, 0, 0, 0, 0, 0, 0] (29815 / 100) = k0 := by
  simp only [kCalc, LOG_10, R_KJ_DEG_MOL, rat_ops, Rat.zero_mul, Rat.div_def 0, Rat.add_zero, Rat.sub_self,
    Rat.mul_zero, Rat.sub_eq_add_neg k0 0, Rat.neg_zero, true_and]

/-- `moles = 10^lm` and `lg = log10(equiv/sites)`: the log activity `lm + lg` the mass-action law speaks about is the
log of the equivalent fraction `equiv·moles/sites` whenever `log10` turns products into sums -/
theorem surface_activity_fraction (f : TransFns Rat) (equiv sites moles lm : Rat) (hs : 0 < sites)
    (hlog : ∀ x y, f.log10 (x * y) = f.log10 x + f.log10 y) (hm : f.log10 moles = lm) :
    letI := ratOps f
    lm + lgSurf equiv sites = log10 (moles * (equiv / sites)) := by
  simp only [lgSurf, rat_ops, hs, if_true]
  rw [hlog, hm]

/-! ## non-vacuity: concrete instances -/

/-- a concrete interpretation of the function symbols: `sinh = id` is odd and strictly increasing, `sqrt = id` is positive
where the examples use it -/
def toyFns : TransFns Rat where
  log10 := fun x => x
  exp10 := fun x => x
  ln := fun _ => 23 / 10
  exp := fun x => 1 + x
  sqrt := fun x => x
  sinh := fun x => x
  cos := fun x => x
  acos := fun x => x
  cbrt := fun x => x
  floor := fun x => x

def toyEnv : Env Rat := { tol := 1 / 100000000, ineqTol := 1 / 1000000000000000, minRel := 0, epsr := 78, tk := 298, mu := 1 / 100 }
def toyStart : State Rat := letI := ratOps toyFns; { env := toyEnv, rows := [Row.site (2 / 10000) (1 / 10000), Row.dl (9 / 100) (1 / 1000)], other := true }
/-- a solver step: the site sum is set to the defined sites, the charge imbalance divided by 1e8 -/
def toyStep (s : State Rat) : State Rat := letI := ratOps toyFns
  { s with rows := s.rows.map fun r => match r with
      | .site m fs => if fs = m then Row.site m fs else Row.site m m
      | .dl g fs => if fs = 0 then Row.dl g fs else Row.dl g (fs / 100000000)
      | r => r }

-- the start state is not converged: with no iteration left `model()` fails, with one it completes
example : letI := ratOps toyFns; converged toyStart = false := by decide +kernel
example : letI := ratOps toyFns; (runModel toyStep 0 toyStart).isSome = false := by decide +kernel
example : letI := ratOps toyFns; (runModel toyStep 1 toyStart).isSome = true := by decide +kernel
example : letI := ratOps toyFns; converged (toyStep toyStart) = true := by decide +kernel
-- a row that is off by 2e-8 relative fails, one that is off by 0.5e-8 passes
example : letI := ratOps toyFns; (Row.site (1 : Rat) (1 - 2 / 100000000)).fails toyEnv = true := by decide +kernel
example : letI := ratOps toyFns; (Row.site (1 : Rat) (1 - 1 / 200000000)).fails toyEnv = false := by decide +kernel
-- the sub-ineq_tol exemption is real: 1e-16 off on 1e-9 mol of sites (1e-7 relative) still passes
example : letI := ratOps toyFns; (Row.site (1 / 1000000000 : Rat) (1 / 1000000000 - 1 / 10000000000000000)).fails toyEnv = false := by decide +kernel
-- mass action with the potential token: Hfo_wOH + H+ = Hfo_wOH2+ (Δz = 1), both sides evaluate to the same number
example : letI := ratOps toyFns;
    lmOf (729 / 100 : Rat) (37 / 10) ([⟨1, -7⟩, ⟨1, -13 / 100⟩] ++ [⟨-(2 : Rat) * 1, 56 / 100⟩]) + 37 / 10
      = laLaw (729 / 100 : Rat) (electroTerm 298 1 (psiOfLa 298 (56 / 100))) [⟨1, -7⟩, ⟨1, -13 / 100⟩] := by decide +kernel
example : letI := ratOps toyFns; lmOf (729 / 100 : Rat) (37 / 10) [⟨1, -7⟩, ⟨1, -13 / 100⟩, ⟨-2, 56 / 100⟩] = -466 / 100 := by decide +kernel

example : letI := ratOps toyFns; gcSigma (78 : Rat) 298 (1 / 100) (1 / 10) < gcSigma (78 : Rat) 298 (1 / 100) (2 / 10) := by decide +kernel
example : letI := ratOps toyFns; gcSigma (78 : Rat) 298 (1 / 100) (-(1 / 10)) = -gcSigma (78 : Rat) 298 (1 / 100) (1 / 10) := by decide +kernel
example : letI := ratOps toyFns; (0 : Rat) < sinhConstant 78 298 := by decide +kernel

example : letI := ratOps toyFns;
    let st := cdResiduals (78 : Rat) 298 (964935 / 10) 1 1 5
      (-(964935 / 10000) / ((23 / 10) * (83147 / 10000000) * 298)) 0 0 (3 / 2) (-1) 0 (-1 / 2)
      ([(1 / 100, 1), (1 / 100, -1)] : List (Rat × Rat))
    st.r0 = 0 ∧ st.r1 = 0 ∧ st.r2 = 0 ∧ st.sigma0 = 1 ∧ st.sigma1 = -1 ∧ cdPsi (298 : Rat) (-(964935 / 10000) / ((23 / 10) * (83147 / 10000000) * 298)) = 1 := by
  decide +kernel

example : letI := ratOps toyFns; ccmSigma (12 / 10 : Rat) (5 / 100) = 6 / 100 := by decide +kernel

-- Donnan layer: 1:1 electrolyte, the root of calc_psi_avg's function and the charge it puts into the layer
example : letI := ratOps toyFns;
    (donnanFd (1 / 1000 : Rat) (1 / 10) false [(1, 1 / 100), (0, 0), (-1, -(1 / 100))] (1 / 2)).1 = 0 ∧
    donnanCharge (1 / 1000) (1 / 10) false toyFns.exp [(1, 1 / 100), (0, 0), (-1, -(1 / 100))] (1 / 2) = -(1 / 1000) := by
  decide +kernel
-- -only_counter_ions leaves the co-ion group out and clips its factor to -ratio + G_TOL/1000
example : letI := ratOps toyFns;
    donnanG (1 / 1000 : Rat) (1 / 10) (1 / 1000000000) (-1) true 1 (1 / 2) = -(1 / 10) + 1 / 1000000000000 ∧
    donnanG (1 / 1000 : Rat) (1 / 10) (1 / 1000000000) (-1) true (-1) (1 / 2) = donnanBoltz (1 / 10) (-1) (-1) (1 / 2) := by
  decide +kernel
-- an `exp` with exp(a+b) = exp a · exp b exists on Rat (hypothesis of donnan_boltzmann_mul is satisfiable)
example : ∃ f : TransFns Rat, (∀ a b, f.exp (a + b) = f.exp a * f.exp b) ∧ f.exp 0 = 1 :=
  ⟨{ toyFns with exp := fun _ => 1 }, by intro a b; show (1 : Rat) = 1 * 1; decide +kernel, rfl⟩
example : letI := ratOps toyFns; kCalc [(729 / 100 : Rat), 10, 0, 0, 0, 0, 0, 0] (29815 / 100) = 729 / 100 := by decide +kernel

-- bidentate phosphate written from the protonated site: own (−1.38, −1.62, 0), parent (1, 0, 0) twice
example : @rewriteDz Rat (ratOps toyFns) ((-138 / 100 : Rat), (-162 / 100 : Rat), (0 : Rat)) [(2, (1, 0, 0))]
    = (62 / 100, -162 / 100, 0) := by decide +kernel
-- a chain of depth two: the protonated bidentate written from the bidentate
example : @rewriteDz Rat (ratOps toyFns) ((0 : Rat), (1 : Rat), (0 : Rat))
    [(1, @rewriteDz Rat (ratOps toyFns) ((-138 / 100 : Rat), (-162 / 100 : Rat), (0 : Rat)) [(2, (1, 0, 0))])]
      = (62 / 100, -62 / 100, 0) := by decide +kernel

end PhreeqcVerif.Surface
