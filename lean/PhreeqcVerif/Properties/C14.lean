import PhreeqcVerif.Lemmas.Store
import PhreeqcVerif.Gen.Keywords
/-!
C14 — numbered reactants behave as a keyed store under COPY/DELETE/SAVE/USE/MODIFY.

`Model/Store.lean` is the store as coded (association lists for `std::map<int,T>`, the loops of `Rxn_copies`,
`saver`, `copy_entities`, `delete_entities`, …). `Lemmas/Store.lean` has the abstract spec `Kind → Int → Option Entry`
(whose content projection `contentOf` is the property's map (kind, number) ↦ content) and the map-level meaning `specOp` of
every store operation. Here: the refinement theorems, and the properties read off the spec. Every map mutation of the
model goes through `St.exec`, i.e. through `applySOp`.
-/
namespace PhreeqcVerif.Store.C14
open PhreeqcVerif.Store AMap

/-- **refines_map**: any sequence of store operations acts on the abstract map as the composition of their specs -/
theorem refines_map (ops : List SOp) (ms : Maps) : abs (applySOps ms ops) = specRun (abs ms) ops :=
  (List.foldl_hom abs fun ms op => (abs_applySOp ms op).symm).symm

/-- the property's view (kind, number) ↦ content follows -/
theorem refines_content (ops : List SOp) (ms : Maps) (k : Kind) (n : Int) :
    contentOf (applySOps ms ops) k n = (specRun (abs ms) ops k n).map (·.content) := by
  rw [← refines_map]
  rfl

theorem other_kinds_untouched (ms : Maps) (op : SOp) (k : Kind) (h : k ≠ op.kind) :
    (applySOp ms op).get k = ms.get k := by
  rw [get_applySOp, if_neg h]

theorem ops_commute_across_kinds (ms : Maps) (a b : SOp) (h : a.kind ≠ b.kind) :
    applySOp (applySOp ms a) b = applySOp (applySOp ms b) a := by
  refine KTab.ext fun k => ?_
  simp only [get_applySOp, h, Ne.symm h, if_false]
  by_cases hb : k = b.kind
  · subst hb
    rw [if_pos rfl, if_neg (Ne.symm h), if_pos rfl]
  · rw [if_neg hb, if_neg hb]

/-- **delete_exact**: DELETE of numbers `nums` of kind `k` removes exactly those entries -/
theorem delete_exact (k : Kind) (nums : List Int) (ms : Maps) (k' : Kind) (x : Int) :
    abs (applySOps ms (nums.map (SOp.erase k))) k' x = if k' = k ∧ x ∈ nums then none else abs ms k' x := by
  rw [refines_map]
  refine specRun_local (by simp [SOp.kind]) _ k' x ?_
  generalize abs ms k = f
  induction nums generalizing f with
  | nil => simp
  | cons n t ih =>
    rw [List.map_cons, List.foldl_cons, ih]
    simp only [List.mem_cons, specOp, upd, eq_comm (a := n)]
    by_cases hx : x ∈ t <;> simp [hx]

/-- DELETE of a kind without numbers removes every entry of that kind and nothing else -/
theorem delete_all_exact (k : Kind) (ms : Maps) (k' : Kind) (x : Int) :
    abs (applySOp ms (.clear k)) k' x = if k' = k then none else abs ms k' x := by
  rw [abs_applySOp]
  exact specStep_apply ..

/-- **copy_content_eq** (signed loop variable): after `COPY k src a-b` every number of a…b except `src` holds an
entry equal to the source's except for its number; the source and everything else is unchanged -/
theorem copy_content_eq (ms : Maps) (k : Kind) (src a b : Int) (e : Entry) (h : abs ms k src = some e) :
    ∃ ts, copyTargets false a b = some ts ∧ ∀ k' x, abs (applySOp ms (.copyTo k src ts)) k' x =
      if k' = k ∧ a ≤ x ∧ x ≤ b ∧ x ≠ src then some (renum e x) else abs ms k' x := by
  refine ⟨_, copyTargets_signed a b, fun k' x => ?_⟩
  rw [abs_applySOp]
  refine specStep_local _ (.copyTo k src _) k' x ?_
  simp only [specOp, SOp.kind, copyToSpec, h, mem_rangeList, and_assoc]

/-- the loop variable of `copy_entities` is signed in the current source, so `copy_content_eq` is about the code as it is -/
theorem copy_loop_is_signed : Gen.StoreTables.copyLoopUnsigned = false := rfl

/-- with the loop variable as it is in the source, COPY to any range a…b (negative numbers included) fills it -/
theorem copy_content_eq_current (ms : Maps) (k : Kind) (src a b : Int) (e : Entry) (h : abs ms k src = some e) :
    ∃ ts, copyTargets Gen.StoreTables.copyLoopUnsigned a b = some ts ∧ ∀ k' x,
      abs (applySOp ms (.copyTo k src ts)) k' x =
        if k' = k ∧ a ≤ x ∧ x ≤ b ∧ x ≠ src then some (renum e x) else abs ms k' x := by
  rw [copy_loop_is_signed]
  exact copy_content_eq ms k src a b e h

/-- the copies carry the source's content, and a later write to a copy does not reach the source (no aliasing) -/
theorem copy_then_write_independent (ms : Maps) (k : Kind) (src j : Int) (e e' : Entry) (h : abs ms k src = some e)
    (hj : j ≠ src) :
    abs (applySOps ms [.copy k src j, .put k j e']) k src = some e ∧
    (abs (applySOp ms (.copy k src j)) k j).map (·.content) = some e.content := by
  constructor
  · rw [refines_map]
    simp only [specRun, List.foldl, specStep_apply, SOp.kind, ↓reduceIte, specOp, upd, h, hj]
  · rw [abs_applySOp]
    simp only [specStep_apply, SOp.kind, ↓reduceIte, specOp, h, upd, Option.map, renum]

/-- unsigned (`size_t`) loop variable: the same result **provided** the range lies in 0 … 2^31-1 -/
theorem copy_content_eq_partial (a b x : Int) (ha : 0 ≤ a) (ha' : a < 2147483648) (hb0 : 0 ≤ b) (hb : b < 2147483648) :
    ∃ ts, copyTargets true a b = some ts ∧ (x ∈ ts ↔ a ≤ x ∧ x ≤ b) := by
  rw [copyTargets_unsigned_eq ha ha' hb0 hb]
  exact mem_copyTargets_int a b x

/-- … and the full statement is false of the `size_t` loop: `COPY k src -2-3` visits no number at all, and
`COPY k src -3--1` never ends -/
theorem copy_unsigned_negative_start_copies_nothing : copyTargets true (-2) 3 = some [] := by decide
theorem copy_unsigned_to_minus_one_runs_away : copyTargets true (-3) (-1) = none := by decide
theorem copy_signed_negative_start : copyTargets false (-2) 3 = some [-2, -1, 0, 1, 2, 3] := by decide

/-- **range_define** / **save_overwrites**: storing an entry under `n` and fanning it out over `n … hi` (by the
chained `Rxn_copies` or by the `Rxn_copy` loop) leaves every number of the range with that content, numbered by
itself — whatever these numbers held before — and changes no other number and no other kind -/
theorem range_define (chain : Bool) (ms : Maps) (k : Kind) (n hi : Int) (e : Entry) (k' : Kind) (x : Int) :
    abs (applySOps ms [.put k n e, if chain then .copies k n hi else .copyEach k n hi]) k' x =
      if k' = k ∧ n ≤ x ∧ (x ≤ hi ∨ x = n) then
        (if x = n then some { e with nUser := n } else some (renum e x))
      else abs ms k' x := by
  -- both fan-outs are the same operation of kind `k`
  have hfan : ∀ f, specOp (if chain then .copies k n hi else .copyEach k n hi) f = fanSpec f n hi := by
    cases chain <;> exact fun _ => rfl
  rw [refines_map]
  refine specRun_local (by cases chain <;> simp [SOp.kind]) _ k' x ?_
  rw [List.foldl, List.foldl, List.foldl, hfan]
  simp only [specOp, fanSpec, upd, if_true]
  by_cases hxn : x = n
  · subst hxn
    rw [if_neg (by omega), if_pos rfl, if_pos (by omega), if_pos rfl]
  · by_cases hr : n < x ∧ x ≤ hi
    · rw [if_pos hr, if_pos (by omega), if_neg hxn]
      rfl
    · rw [if_neg hr, if_neg (Ne.symm hxn), if_neg (by omega)]

theorem save_overwrites (chain : Bool) (ms : Maps) (k : Kind) (n hi : Int) (tok : Nat) (x : Int)
    (hx : n ≤ x ∧ x ≤ hi) :
    contentOf (applySOps ms [.put k n (calcEntry tok n), if chain then .copies k n hi else .copyEach k n hi]) k x
      = some tok := by
  show (abs _ k x).map _ = _
  rw [range_define, if_pos ⟨rfl, hx.1, Or.inl hx.2⟩]
  split <;> rfl

/-- **modify_local**: `*_MODIFY k n` touches only entry (k, n), and of it only content, range end and the new_def flag -/
theorem modify_local (ms : Maps) (k : Kind) (n hi : Int) (tok : Nat) (k' : Kind) (x : Int) :
    abs (applySOp ms (.modify k n hi tok)) k' x =
      if k' = k ∧ x = n then
        (abs ms k n).map fun e => { e with content := tok, nUserEnd := hi,
                                           newDef := if k = .solution then e.newDef else false, nUser := n }
      else abs ms k' x := by
  rw [abs_applySOp]
  refine specStep_local _ (.modify k n hi tok) k' x ?_
  simp only [specOp, SOp.kind]
  cases h : abs ms k n with
  | none =>
    show abs ms k x = if x = n then none else abs ms k x
    exact (ite_eq_right_iff.mpr fun hx => hx ▸ h.symm).symm
  | some e => simp only [upd, Option.map, eq_comm (a := n)]

/-- **use_reads_only**: `copy_use(-2)` (what USE / RUN_CELLS do before a calculation) writes scratch number −2 only -/
theorem use_reads_only (ms : Maps) (k : Kind) (i : Int) (k' : Kind) (x : Int) (hx : x ≠ -2) :
    abs (applySOp ms (.copy k i (-2))) k' x = abs ms k' x := by
  rw [abs_applySOp, specStep_apply]
  split
  · simp only [specOp]
    cases abs ms k' i with
    | none => rfl
    | some e => exact if_neg (Ne.symm hx)
  · rfl

/-! ### representation: the concrete store carries nothing beyond the abstract map -/

def GoodStore (ms : Maps) : Prop := ∀ k, Good (ms.get k)

theorem good_init : GoodStore (St.init true).maps := good_const_nil

theorem good_applySOps (ops : List SOp) (ms : Maps) (h : GoodStore ms) : GoodStore (applySOps ms ops) :=
  List.foldlRecOn ops applySOp h fun _ hms op _ => good_applySOp hms op

theorem abs_injective (ms₁ ms₂ : Maps) (h₁ : GoodStore ms₁) (h₂ : GoodStore ms₂) (h : abs ms₁ = abs ms₂) :
    ms₁ = ms₂ :=
  KTab.ext fun k => good_ext (h₁ k).1 (h₂ k).1 fun x => congrFun (congrFun h k) x

/-- DUMP prints the key: in a well-formed store every entry's n_user is the number it is filed under, and a
(kind, number) occurs at most once and in ascending order -/
theorem dump_number_is_key (ms : Maps) (h : GoodStore ms) (k : Kind) (p : Int × Entry) (hp : p ∈ ms.get k) :
    p.2.nUser = p.1 := (h k).2 p hp

/-- **components_superset**: every element of every entry of a visited kind is in the component list -/
theorem components_superset (elemsOf : Nat → List String) (ms : Maps) (k : Kind) (hk : k ∈ componentKinds)
    (n : Int) (e : Entry) (h : abs ms k n = some e) (el : String) (hel : el ∈ elemsOf e.content) :
    el ∈ components elemsOf ms := by
  simp only [components, List.mem_flatMap]
  exact ⟨k, hk, (n, e), find_mem h, hel⟩

/-- … in particular after any history of store operations -/
theorem components_superset_after (elemsOf : Nat → List String) (ms : Maps) (ops : List SOp) (k : Kind)
    (hk : k ∈ componentKinds) (n : Int) (e : Entry) (h : specRun (abs ms) ops k n = some e) (el : String)
    (hel : el ∈ elemsOf e.content) : el ∈ components elemsOf (applySOps ms ops) :=
  components_superset elemsOf _ k hk n e (refines_map ops ms ▸ h) el hel

/-! ### the schedule of one simulation and the option tables, against the current source

`Gen/StoreTables.lean` is rewritten by tools/gen_store.py from /repo on every run of the check; these obligations are
re-checked each time, so a reordered call in `do_run`, a changed kind order in a driver loop, a reordered option vector
or a re-wired `case` no longer checks. Where both sides reduce to lists of literals the proof is `rfl`: the kernel
compares literals as they are, while deciding the equation would make it decode every string. -/

/-- the model runs the phases of a simulation in the order of the calls in `IPhreeqc::do_run` … -/
theorem schedule_is_do_run : schedule.map Phase.call = Gen.StoreTables.doRun := rfl
/-- … which is also the order in `Phreeqc::run_simulations` -/
theorem schedule_is_run_simulations : schedule.map Phase.call = Gen.StoreTables.runSimulations := rfl
/-- the observation point (`simToDump`) and the remainder make up exactly the schedule; DELETE comes after DUMP -/
theorem schedule_split : schedule.takeWhile (· != .dump) ++ schedule.dropWhile (· != .dump) = schedule ∧
    schedule.dropWhile (· != .dump) = [.dump, .deleteEntities] := by decide +kernel

theorem set_use_order_is_source : setUseOrder.map Kind.name = Gen.StoreTables.setUse := rfl
theorem copy_use_order_is_source : copyUseOrder.map Kind.name = Gen.StoreTables.copyUse := rfl
theorem saver_is_source : saverKinds.map (fun p => (p.1.name, p.2)) = Gen.StoreTables.saverFan := rfl
theorem do_mixes_order_is_source : mixOrder.map Kind.name = Gen.StoreTables.doMixes := rfl
theorem copy_order_is_source : copyOrder.map Kind.name = Gen.StoreTables.copyEntities := rfl
theorem delete_and_dump_order_is_source :
    Kind.all.map Kind.name = Gen.StoreTables.deleteEntities ∧ Kind.all.map Kind.name = Gen.StoreTables.dumpOstream := ⟨rfl, rfl⟩
theorem component_kinds_is_source : componentKinds.map Kind.name = Gen.StoreTables.listComponents := rfl

/-- every option name the generator writes in a DELETE block selects the item of the intended kind -/
theorem delete_names_resolve :
    Gen.StoreTables.delNames.all (fun p => match kindOfName p.1 with
      | some k => decide (resolveDelLine p.2 [] = some (.item k []))
      | none => false) = true := by decide +kernel
theorem delete_all_cell_resolve :
    resolveDelLine "all" [] = some .all ∧ resolveDelLine "cell" [] = some (.cell []) ∧
    resolveDelLine "cells" [] = some (.cell []) := by decide +kernel
/-- an abbreviation goes to the FIRST option it is a prefix of: `-s` is solution (not surface), `-p` pp_assemblage,
    `-r` reaction (not reaction_temperature), `-c` cell, `-a` all -/
theorem delete_abbreviations :
    resolveDelLine "s" [] = some (.item .solution []) ∧ resolveDelLine "su" [] = some (.item .surface []) ∧
    resolveDelLine "p" [] = some (.item .pp []) ∧ resolveDelLine "pr" [] = some (.item .pressure []) ∧
    resolveDelLine "r" [] = some (.item .reaction []) ∧ resolveDelLine "reaction_" [] = some (.item .temperature []) ∧
    resolveDelLine "c" [] = some (.cell []) ∧ resolveDelLine "a" [] = some .all ∧
    resolveDelLine "so" [] = some (.item .solution []) ∧ resolveDelLine "sol" [] = some (.item .solution []) ∧
    resolveDelLine "soli" [] = some (.item .ss []) ∧ resolveDelLine "x" [] = none := by decide +kernel
/-- every option of the vector is wired to an item -/
theorem delete_options_all_wired :
    Gen.StoreTables.binVopts.all (fun v => (resolveDelLine v []).isSome) = true ∧ Gen.StoreTables.binVopts.length = Gen.StoreTables.binCases.length := by decide +kernel
/-- `-cells` of RUN_CELLS, also abbreviated, is the cell list -/
theorem run_cells_option_resolves :
    ["cells", "cell", "cel", "ce", "c"].all resolveCells = true ∧ resolveCells "s" = false := by decide +kernel
/-- the observing `DUMP -all` selects "all" -/
theorem dump_all_resolves : resolveOpt Gen.StoreTables.dumperVopts "all" = some Gen.StoreTables.dumperAllCase := by decide +kernel

/-- DUMP: every option of `dumper::vopts` is wired, and each kind's option name selects that kind's item
    (the same spelling as in DELETE) -/
theorem dump_options_wired :
    Gen.StoreTables.dumperVopts.length = Gen.StoreTables.dumperCases.length ∧
    Gen.StoreTables.delNames.all (fun p =>
      ((resolveOpt Gen.StoreTables.dumperVopts p.2).bind fun i => Gen.StoreTables.dumperCases[i]?) == some p.1) = true ∧
    ((resolveOpt Gen.StoreTables.dumperVopts "cells").bind fun i => Gen.StoreTables.dumperCases[i]?) = some "cell" := by
  decide +kernel

/-- the `Keywords::KEY_…` enumerator a keyword text is looked up to (`Keywords::Keyword_search`, generated table) -/
def keyOf (name : String) : Option String :=
  (Gen.Keywords.table.lookup name).bind fun i => Gen.Keywords.enumNames[i]?

/-- the names written after USE and COPY select, through the keyword table and the `switch` of `read_use` /
    `read_copy`, the intended kind; the definition keywords are the same enumerators -/
theorem use_copy_names_resolve :
    Gen.StoreTables.useNames.all (fun p =>
      ((keyOf p.2).bind fun k => Gen.StoreTables.useKeys.lookup k) == some p.1 &&
      ((keyOf p.2).bind fun k => Gen.StoreTables.copyKeys.lookup k) == some p.1) = true ∧
    Gen.StoreTables.kwNames.all (fun p =>
      ((keyOf p.2).bind fun k => Gen.StoreTables.useKeys.lookup k) == some p.1) = true := by decide +kernel
/-- SAVE accepts exactly the six saveable kinds, each under its own name -/
theorem save_names_resolve :
    Gen.StoreTables.useNames.all (fun p =>
      match (keyOf p.2).bind fun k => Gen.StoreTables.saveKeys.lookup k with
      | some k => k == p.1
      | none => !(saverKinds.map (·.1.name)).contains p.1) = true := by decide +kernel

/-! ### non-vacuity: concrete histories -/

def e0 (tok : Nat) (n hi : Int) : Entry := ⟨tok, n, hi, true, none, []⟩
def empty : Maps := KTab.const []

/-- SOLUTION 1-3 (content 7), COPY solution 2 5-6, DELETE solution 2, SOLUTION_MODIFY 5 (content 9) -/
def hist1 : List SOp :=
  [.put .solution 1 (e0 7 1 3), .copies .solution 1 3, .copyTo .solution 2 [5, 6], .erase .solution 2,
   .modify .solution 5 5 9, .put .pp 1 (e0 8 1 1)]

example : (visible (applySOps empty hist1)) =
    [(.solution, 1, 7), (.solution, 3, 7), (.solution, 5, 9), (.solution, 6, 7), (.pp, 1, 8)] := by decide +kernel
example : contentOf (applySOps empty hist1) .solution 2 = none := by decide +kernel
example : specRun (abs empty) hist1 .solution 6 = some (renum (e0 7 1 3) 6) := by decide +kernel
/-- overwriting: a range saved over existing entries replaces all of them (the seeded `insert` variant would not) -/
example : visible (applySOps empty [.put .pp 2 (e0 1 2 2), .put .pp 3 (e0 2 3 3), .put .pp 1 (calcEntry 5 1),
    .copies .pp 1 3]) = [(.pp, 1, 5), (.pp, 2, 5), (.pp, 3, 5)] := by decide +kernel
example : components (fun t => if t = 7 then ["Na", "Cl"] else ["Ca"]) (applySOps empty hist1) =
    ["Na", "Cl", "Na", "Cl", "Ca", "Na", "Cl", "Ca"] := by decide +kernel
example : GoodStore (applySOps empty hist1) := good_applySOps _ _ good_const_nil

end PhreeqcVerif.Store.C14
