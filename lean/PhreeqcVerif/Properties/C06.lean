import PhreeqcVerif.Lemmas.Sched
import PhreeqcVerif.Lemmas.String
import PhreeqcVerif.Model.GlobalsPolicy
import PhreeqcVerif.Gen.LockAudit
import PhreeqcVerif.Gen.Globals
import PhreeqcVerif.Gen.Comparators
import PhreeqcVerif.Properties.C13Store
/-!
# C06 — deterministic results; instances are isolated and usable from parallel threads

Model: `Model/Registry.lean` (the registry under `map_lock`) and `Model/Sched.lean` (threads, local handles,
schedules).  The theorems quantify over **every** schedule (interleaving) of every number of threads and every program.
The hypothesis of the model — an operation touches only the instance it is addressed to, and every registry access is
one atomic step — is tied to the current source by the two generated audits below.
-/
namespace PhreeqcVerif.Sched
open PhreeqcVerif.Registry

/-- own program of thread `t` inside a schedule -/
def program {σ} (t : Nat) (sch : List (Nat × TOp σ)) : List (TOp σ) := (sch.filter (fun e => e.1 == t)).map (·.2)

theorem schedule_projection_from {σ} (fresh0 : σ) (sch : List (Nat × TOp σ)) (s : Sys σ) (h : s.Inv) (t : Nat) :
    (s.run fresh0 sch).obs t = (program t sch).foldl (aloneStep fresh0) (s.obs t) := by
  induction sch generalizing s with
  | nil => rfl
  | cons e es ih =>
    obtain ⟨t', op⟩ := e
    have := ih (s.step fresh0 (t', op)) (inv_step fresh0 s h _)
    simp only [Sys.run, List.foldl_cons] at this ⊢
    rw [this, obs_step fresh0 s h]
    by_cases ht : t' = t
    · subst ht; simp [program]
    · have hb : (t' == t) = false := by simpa using ht
      simp [program, hb, Ne.symm ht]

/-- **isolation and determinism under every schedule**: after any interleaving of any number of threads, what thread
`t` observes of its own instances (in creation order) is exactly what its own program yields when it runs alone —
whatever the other threads create, call or destroy meanwhile. -/
theorem schedule_projection {σ} (fresh0 : σ) (sch : List (Nat × TOp σ)) (t : Nat) :
    ((Sys.init : Sys σ).run fresh0 sch).obs t = aloneRun fresh0 (program t sch) := by
  have := schedule_projection_from fresh0 sch (Sys.init : Sys σ) inv_init t
  simpa [aloneRun, Sys.obs, Sys.init] using this

/-- two schedules that contain the same program for `t` (other threads arbitrary) give `t` identical results -/
theorem schedule_independence {σ} (fresh0 : σ) (sch1 sch2 : List (Nat × TOp σ)) (t : Nat)
    (h : program t sch1 = program t sch2) :
    ((Sys.init : Sys σ).run fresh0 sch1).obs t = ((Sys.init : Sys σ).run fresh0 sch2).obs t := by
  rw [schedule_projection, schedule_projection, h]

/-- ids handed out under any schedule are unique across all threads and never reused (the handle lists keep the ids of
destroyed instances too) -/
theorem ids_unique_all_schedules {σ} (fresh0 : σ) (sch : List (Nat × TOp σ)) :
    let s := (Sys.init : Sys σ).run fresh0 sch
    (∀ t, (s.handles t).Nodup) ∧ (∀ t1 t2, t1 ≠ t2 → ∀ id ∈ s.handles t1, id ∉ s.handles t2) ∧
    (∀ t, ∀ id ∈ s.handles t, id < s.reg.next) := by
  have h := inv_run fresh0 sch (Sys.init : Sys σ) inv_init
  exact ⟨h.nodup, h.disj, h.below⟩

/-- non-vacuity: two threads interleaved; thread 1's instance ends as (0+10)*2 whatever thread 0 did, thread 0's
instance is destroyed, ids are 0 and 1 -/
example :
    let sch : List (Nat × TOp Nat) :=
      [(0, .create), (1, .create), (0, .call 0 (· + 1)), (1, .call 0 (· + 10)), (0, .destroy 0), (1, .call 0 (· * 2)),
       (0, .call 0 (· + 5)), (1, .destroy 7)]
    let s := (Sys.init : Sys Nat).run 0 sch
    s.obs 1 = [some 20] ∧ s.obs 0 = [none] ∧ s.handles 0 = [0] ∧ s.handles 1 = [1] ∧
    aloneRun 0 (program 1 sch) = [some 20] := by decide +kernel

end PhreeqcVerif.Sched

namespace PhreeqcVerif.C06
open PhreeqcVerif.Gen PhreeqcVerif.GlobalsPolicy

/-- every access to the instance registry in the current source lies inside `map_lock`, and no function returns
while holding it (regenerated by tools/gen_lock_audit.py) -/
theorem registry_accesses_guarded :
    LockAudit.locksDefined = true ∧ LockAudit.registrySites.all (·.guarded) = true := by decide

/-- every `qsort` call of the engine, after preprocessing, is wrapped by the `qsort_lock` guard of thread.h -/
theorem qsort_calls_guarded : LockAudit.qsortSites.all (·.guarded) = true := by decide

/-- the guard is ONE statement: no call site's lock is the body of an `if`/`else`/loop while the sort and the unlock are not
(the three-statement form of the macro under `if (n > 1) qsort(...)` unlocked without locking; fixed in 041f321e) -/
theorem qsort_guard_is_one_statement : LockAudit.qsortSites.all (fun s => !s.cond) = true := by decide

/-- the audits are not empty (the translator found the code it audits) -/
theorem audit_nonempty : LockAudit.registrySites.length ≥ 5 ∧ LockAudit.qsortSites.length ≥ 5 := by decide

/- Full-strength statement (false on the current tree, see `knownShared` and known_findings.txt
   `transport-file-scope-globals`):
     theorem no_shared_mutable_state : Globals.writable.all (fun p => allowed p.2.1 p.2.2) = true            -/

/-- every writable global of the library built from the current source is either a lock / the guarded registry /
a table written only by its static initialiser, or one of the transport.cpp variables recorded as a known finding;
nothing else exists (a new file-scope variable or function-local static breaks this obligation) -/
theorem globals_accounted_partial :
    Globals.writable.all (fun p => allowed p.2.1 p.2.2 || knownShared.contains p.2.1) = true := by decide +kernel

/-- **the only id dependence is the rendering of default file names**: for every call sequence on the settings/run interface
of the model (switches, names, user numbers, loads, SELECTED_OUTPUT definitions, runs), the results on a fresh instance with
id `a` and with id `b` are the renderings, with `a` resp. `b`, of ONE list of results computed without any id; integer
results are equal outright. Tie: the default-name jobs of the exploration run identical calls at two ids; names and files
written are compared with `SName.render` (pmodel api `defaultnames`), every channel and file content must be identical. -/
theorem id_enters_only_default_file_names (cs : List Settings.Call) (a b : Nat) :
    ∃ rs : List Settings.SRes,
      (Settings.runCalls (Settings.fresh a) cs).2 = rs.map (Settings.SRes.render a) ∧
      (Settings.runCalls (Settings.fresh b) cs).2 = rs.map (Settings.SRes.render b) :=
  ⟨(Settings.srunCalls Settings.sfresh cs).2, Settings.results_depend_on_id_only_through_default_names cs a,
   Settings.results_depend_on_id_only_through_default_names cs b⟩

/-- the default names as a function of the id: exactly these five shapes, nothing else is rendered -/
theorem default_names (id : Nat) (k : Int) :
    (Settings.SName.dflt .out).render id = s!"phreeqc.{id}.out" ∧ (Settings.SName.dflt .err).render id = s!"phreeqc.{id}.err" ∧
    (Settings.SName.dflt .log).render id = s!"phreeqc.{id}.log" ∧ (Settings.SName.dflt .dump).render id = s!"dump.{id}.out" ∧
    (Settings.SName.dfltSel k).render id = s!"selected_{k}.{id}.out" ∧ ∀ s, (Settings.SName.user s).render id = s :=
  ⟨rfl, rfl, rfl, rfl, rfl, fun _ => rfl⟩

/-- every policy entry carries its reason, and no symbol is both allowed and listed as known-shared (entries whose symbol
has disappeared from the build are reported in the evidence as stale; that is hygiene of the list, not a property of the code) -/
theorem policy_entries_have_reasons :
    allowedWhy.all (fun e => e.2.2.length ≥ 10) = true ∧
    knownShared.all (fun n => !allowedExact.contains n) = true := by
  refine ⟨?_, by decide +kernel⟩
  -- the lengths are read off the characters of the literals, not computed by `String.length`
  simp only [allowedWhy, List.all_cons, List.all_nil, Bool.and_true, Bool.and_eq_true, decide_eq_true_eq]
  repeat' apply And.intro
  all_goals exact String.le_length_ofList (by decide)

/-- the reason "written only by its initialiser" is backed by the source: for every writable symbol of the current build that
the policy allows for this reason, the translator found the table's definition and **no** occurrence in src/ that assigns to
it, increments it, mutates it as a container or takes its address -/
theorem init_only_tables_never_written :
    Globals.writable.all (fun p =>
      match initOnlyTableOf p.2.1 p.2.2 with
      | some t => Globals.initOnly.any (fun e => e.1 == t && e.2.1 ≥ 1 && e.2.2.2.2 == 0)
      | none => true) = true := by decide +kernel

/-- **no ordering rule looks at addresses**: none of the comparison functions handed to qsort / bsearch / std::sort anywhere in
the engine (regenerated from the call sites; bodies read from clang's typed AST) applies `<`, `>`, `<=`, `>=` or `-` to two
pointers or casts a pointer to an integer. Such a rule would order equal-keyed items by the allocator's history — by which
other instances exist or existed — without any data race. (-1 = a comparator the translator could not analyse: nothing is
claimed for it here; the tie workload of the exploration compares its output across histories.) -/
theorem no_comparator_orders_by_address :
    Comparators.comparators.length ≥ 10 ∧
    Comparators.comparators.all (fun c => c.2.2.2.1 ≤ 0 && c.2.2.2.2 ≤ 0) = true := by decide +kernel

/-- every std::map / std::set keyed by a pointer is one of the reviewed ones, whose iteration order reaches no result -/
theorem pointer_keyed_containers_reviewed :
    Comparators.pointerKeyed.all (fun p => pointerKeyedReviewed.any (fun r => r.1 == p.1 && r.2 != "")) = true := by
  decide +kernel

/-- the engine calls no libc function that keeps hidden static state -/
theorem no_nonreentrant_libc_calls : Globals.nonReentrantCalls = [] := by decide

end PhreeqcVerif.C06
