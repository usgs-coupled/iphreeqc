import PhreeqcVerif.Lemmas.SelOut
/-!
# C05 — selected-output table: property theorems

All statements are about `PhreeqcVerif.SelOut.Table`, the model of `CSelectedOutput`
(tied to the C++ class by the op-sequence correspondence of `tools/props/c05.py`).
-/
namespace PhreeqcVerif.SelOut

theorem inv_init : Table.init.Inv := ⟨rfl, by simp [Table.init]⟩

theorem inv_clear (t : Table) : t.clear.Inv := inv_init

/-- `PushBack` keeps "one cell vector per heading, each holding rowCount or rowCount+1 cells". -/
theorem inv_pushBack (t : Table) (k : String) (v : Var) (h : t.Inv) : (t.pushBack k v).Inv := by
  unfold Table.pushBack
  cases hf : findCol t.headings k with
  | none =>
    refine ⟨by simp [h.ncols], ?_⟩
    intro c hc
    rcases List.mem_append.1 hc with hc | hc
    · exact h.cells c hc
    · right; rw [List.mem_singleton.1 hc]; simp
  | some i =>
    refine ⟨by simp [modifyNth_eq_modify, h.ncols], ?_⟩
    intro c hc
    rcases mem_modifyNth hc with hc | ⟨x, hx, e⟩
    · exact h.cells c hc
    · right; subst e; exact putCell_length _ _ _ (h.cells x hx)

/-- `EndRow` keeps the invariant and leaves every column with exactly `rowCount` cells:
every row of the table has exactly `ColumnCount` cells. -/
theorem inv_endRow (t : Table) (h : t.Inv) : t.endRow.Inv ∧ t.endRow.Full := by
  have key : ∀ c ∈ t.endRow.cols, c.length = t.rowCount + 1 := by
    intro c hc
    obtain ⟨x, hx, rfl⟩ := List.mem_map.1 hc
    rw [padTo_length, Nat.max_eq_left]
    rcases h.cells x hx with e | e <;> simp [e]
  exact ⟨⟨by simp [Table.endRow, h.ncols], fun c hc => .inl (key c hc)⟩, key⟩

theorem inv_step (t : Table) (op : Op) (h : t.Inv) : (t.step op).Inv := by
  cases op with
  | push k v => exact inv_pushBack t k v h
  | endRow => exact (inv_endRow t h).1
  | clear => exact inv_clear t

theorem inv_run (ops : List Op) (t : Table) (h : t.Inv) : (t.run ops).Inv :=
  List.foldlRecOn ops _ h (fun t ht op _ => inv_step t op ht)

theorem inv_reachable (ops : List Op) : (Table.init.run ops).Inv := inv_run ops _ inv_init

/-- After any history that ends with `EndRow`, all columns hold exactly `rowCount` cells. -/
theorem full_after_endRow (ops : List Op) : ((Table.init.run ops).endRow).Full :=
  (inv_endRow _ (inv_reachable ops)).2

/-- Out-of-range rows give `VR_INVALIDROW` and an error-typed VAR. -/
theorem get_invalid_row (t : Table) (r c : Int) (h : r < 0 ∨ r ≥ (t.rowCountAPI : Int)) :
    t.get r c = (VR_INVALIDROW, .error VR_INVALIDROW) := by
  simp [Table.get, h]

/-- In-range row, out-of-range column gives `VR_INVALIDCOL` and an error-typed VAR. -/
theorem get_invalid_col (t : Table) (r c : Int) (hr : 0 ≤ r ∧ r < (t.rowCountAPI : Int))
    (h : c < 0 ∨ c ≥ (t.colCount : Int)) :
    t.get r c = (VR_INVALIDCOL, .error VR_INVALIDCOL) := by
  rw [Table.get, if_neg (not_or.2 ⟨Int.not_lt.2 hr.1, Int.not_le.2 hr.2⟩), if_pos h]

/-- Row 0 holds the headings, one per column. -/
theorem get_heading (t : Table) (c : Nat) (hc : c < t.colCount) :
    t.get 0 c = (VR_OK, .str (t.headings.getD c "")) := by
  have h0 : t.rowCountAPI ≠ 0 := by simp [Table.rowCountAPI, Nat.ne_zero_of_lt hc]
  simp [Table.get, h0, Nat.not_le.2 hc]

/-- the heading of a pushed key is the key: row 0 of its column reads back the key -/
theorem heading_of_pushed (t : Table) (k : String) (v : Var) :
    ∃ i, findCol (t.pushBack k v).headings k = some i ∧ (t.pushBack k v).headings.getD i "" = k := by
  unfold Table.pushBack
  cases hf : findCol t.headings k with
  | none =>
    refine ⟨t.headings.length, ?_, ?_⟩
    · simpa using findCol_append_self hf
    · simp
  | some i => exact ⟨i, by simpa using hf, by simpa using (findCol_some hf).2⟩

/-- `GetRowCount` contract: 0 without columns, otherwise data rows + 1. -/
theorem rowCount_contract (t : Table) :
    (t.colCount = 0 → t.rowCountAPI = 0) ∧ (t.colCount ≠ 0 → t.rowCountAPI = t.rowCount + 1) := by
  constructor <;> intro h <;> simp [Table.rowCountAPI, h]

/-- A column that appears late is padded with empty cells for all earlier rows, and the
pushed value is the cell of the current row. (The earlier rows are read with default `.long 0`, so `.empty` is a
cell that exists and not the default of `getD`.) -/
theorem late_column_padded (t : Table) (k : String) (v : Var) (hk : findCol t.headings k = none)
    (h : t.Inv) :
    let t' := t.pushBack k v
    t'.colCount = t.colCount + 1 ∧
    (∀ r, r < t.rowCount → (t'.cols.getD t.colCount []).getD r (.long 0) = .empty) ∧
    (t'.cols.getD t.colCount []).getD t.rowCount .empty = v := by
  simp only [Table.pushBack, hk, Table.colCount]
  refine ⟨by simp, ?_, ?_⟩
  · intro r hr
    rw [← h.ncols]
    simp [List.getD_eq_getElem?_getD, List.getElem?_append_left, hr]
  · rw [← h.ncols]
    simp [List.getD_eq_getElem?_getD]

/-- Pushing to an existing column sets the current row's cell of that column to the value
(last write wins) and changes no other column and no earlier row. -/
theorem push_existing (t : Table) (k : String) (v : Var) (i : Nat)
    (hk : findCol t.headings k = some i) (h : t.Inv) :
    (t.pushBack k v).headings = t.headings ∧
    ((t.pushBack k v).cols.getD i []).getD t.rowCount .empty = v ∧
    (∀ j, j ≠ i → (t.pushBack k v).cols.getD j [] = t.cols.getD j []) ∧
    (∀ r, r < t.rowCount →
      ((t.pushBack k v).cols.getD i []).getD r .empty = (t.cols.getD i []).getD r .empty) := by
  have hi : i < t.cols.length := by rw [h.ncols]; exact (findCol_some hk).1
  have hlen := h.cells (t.cols.getD i []) (by simp [List.getD_eq_getElem?_getD, hi])
  have hcol : ∀ j, (t.pushBack k v).cols.getD j [] =
      if j = i then putCell t.rowCount v (t.cols.getD j []) else t.cols.getD j [] := by
    intro j; simp only [Table.pushBack, hk]; exact modifyNth_getD _ _ _ _ _ hi
  refine ⟨by simp [Table.pushBack, hk], ?_, ?_, ?_⟩
  · rw [hcol, if_pos rfl, putCell_getD _ _ _ hlen, if_pos rfl]
  · intro j hj; rw [hcol, if_neg hj]
  · intro r hr; rw [hcol, if_pos rfl, putCell_getD _ _ _ hlen, if_neg (Nat.ne_of_lt hr)]

/-- `EndRow` never changes a cell that exists; cells it adds are empty. -/
theorem endRow_preserves_cells (t : Table) (j r : Nat) (h : t.Inv)
    (hr : r < ((t.cols.getD j []).length)) :
    (t.endRow.cols.getD j []).getD r .empty = (t.cols.getD j []).getD r .empty := by
  by_cases hj : j < t.cols.length
  · have e : t.endRow.cols.getD j [] = padTo (t.rowCount + 1) (t.cols.getD j []) := by
      simp [Table.endRow, List.getD_eq_getElem?_getD, hj]
    rw [e, padTo, List.getD_eq_getElem?_getD, List.getElem?_append_left hr, ← List.getD_eq_getElem?_getD]
  · simp [List.getD_eq_getElem?_getD, Nat.le_of_not_lt hj] at hr

/-- Non-vacuity: a concrete history with a late column and an overwritten cell. -/
example :
    let t := Table.init.run [.push "a" (.long 1), .endRow, .push "b" (.str "x"), .push "b" (.str "y"),
                             .endRow]
    t.Inv ∧ t.Full ∧ t.rowCountAPI = 3 ∧ t.colCount = 2 ∧
    t.get 1 1 = (VR_OK, .empty) ∧ t.get 2 1 = (VR_OK, .str "y") ∧ t.get 2 0 = (VR_OK, .empty) ∧
    t.get 0 1 = (VR_OK, .str "b") ∧ t.get 3 0 = (VR_INVALIDROW, .error VR_INVALIDROW) ∧
    t.get (-1) 0 = (VR_INVALIDROW, .error VR_INVALIDROW) ∧
    t.get 0 2 = (VR_INVALIDCOL, .error VR_INVALIDCOL) := by
  exact ⟨inv_reachable _,
    full_after_endRow [.push "a" (.long 1), .endRow, .push "b" (.str "x"), .push "b" (.str "y")], by decide +kernel⟩

/-- rows ended before the block has any column are kept: the row count advances, `GetRowCount` answers 0 until a
column exists, and the late column shows the earlier rows as empty cells (regression of b4accc5a) -/
theorem endRow_without_columns (t : Table) (h : t.colCount = 0) :
    t.endRow.rowCount = t.rowCount + 1 ∧ t.endRow.rowCountAPI = 0 ∧ t.endRow.colCount = 0 := by
  simp [Table.endRow, Table.rowCountAPI, Table.colCount] at h ⊢
  exact h

example :
    let t := Table.init.run [.endRow, .endRow, .push "a" (.long 1), .endRow]
    t.rowCountAPI = 4 ∧ t.get 1 0 = (VR_OK, .empty) ∧ t.get 2 0 = (VR_OK, .empty) ∧ t.get 3 0 = (VR_OK, .long 1) := by
  decide +kernel

/-! ## language bindings -/

/-- unknown user number: `VR_INVALIDARG` and an error-typed VAR -/
theorem getOpt_unknown (r c : Int) : getOpt none r c = (VR_INVALIDARG, .error VR_INVALIDARG) := rfl

/-- every failing accessor call hands back an error-typed VAR carrying the returned code -/
theorem getOpt_error_typed (t : Option Table) (r c : Int) (h : (getOpt t r c).1 ≠ VR_OK) :
    (getOpt t r c).2 = .error (getOpt t r c).1 := by
  cases t with
  | none => rfl
  | some t =>
    rw [getOpt, Table.get] at h ⊢
    by_cases h1 : r < 0 ∨ r ≥ (t.rowCountAPI : Int)
    · rw [if_pos h1]
    · rw [if_neg h1] at h ⊢
      by_cases h2 : c < 0 ∨ c ≥ (t.colCount : Int)
      · rw [if_pos h2]
      · rw [if_neg h2] at h
        by_cases h3 : r = 0
        · rw [if_pos h3] at h; exact absurd rfl h
        · rw [if_neg h3] at h; exact absurd rfl h

/-- C / C++ and Fortran accessors differ exactly by the 1-based column -/
theorem bindings_agree (t : Option Table) (r c : Int) : getOptF t r (c + 1) = getOpt t r c := by
  simp [getOptF]

/-- Fortran row count = number of data rows (0 without columns) -/
theorem rowCountF_spec (t : Table) :
    rowCountF t.rowCountAPI = if t.colCount ≠ 0 then t.rowCount else 0 := by
  simp only [rowCountF, Table.rowCountAPI]
  split <;> simp

/-- `Value2`/`ValueF` report type ERROR exactly for an error-typed VAR, a number (long or double) as DOUBLE
with the value written, and write no number for empty / error / string cells -/
theorem reported_type (v : Var) :
    (vtypeReported v = 1 ↔ v.isError = true) ∧
    (vtypeReported v = 3 ↔ (dvalReported v).isSome = true) := by
  cases v <;> simp [vtypeReported, dvalReported, Var.isError]

/-- `padfstring`: the buffer holds exactly `cap` bytes — the leading bytes of the value, then blanks — and the
reported length is the full length of the value (so truncation is detectable) -/
theorem padF_spec (cap : Nat) (src : List UInt8) :
    (padF cap src).1.length = cap ∧ (padF cap src).2 = src.length ∧
    (∀ i, i < cap → i < src.length → (padF cap src).1[i]? = src[i]?) ∧
    (∀ i, i < cap → src.length ≤ i → (padF cap src).1[i]? = some 32) := by
  refine ⟨?_, rfl, ?_, ?_⟩
  · simp only [padF, List.length_append, List.length_take, List.length_replicate]
    by_cases h : src.length ≤ cap
    · rw [Nat.min_eq_right h, Nat.add_sub_cancel' h]
    · rw [Nat.min_eq_left (Nat.le_of_not_le h), Nat.sub_eq_zero_of_le (Nat.le_of_not_le h), Nat.add_zero]
  · intro i h1 h2
    simp only [padF]
    rw [List.getElem?_append_left (by rw [List.length_take]; exact Nat.lt_min.2 ⟨h1, h2⟩),
      List.getElem?_take_of_lt h1]
  · intro i h1 h2
    have h : src.length ≤ cap := Nat.le_of_lt (Nat.lt_of_le_of_lt h2 h1)
    simp only [padF, List.take_of_length_le h]
    rw [List.getElem?_append_right h2, List.getElem?_replicate, if_pos (Nat.sub_lt_sub_right h2 h1)]

/-- a value that fits is handed over unchanged (blank padded), by both the Fortran and the `Value2` route -/
theorem fits_unchanged (cap : Nat) (src : List UInt8) (h : src.length ≤ cap) :
    (padF cap src).1 = src ++ List.replicate (cap - src.length) 32 ∧ strncpyView cap src = src := by
  simp [padF, strncpyView, List.take_of_length_le h]

/-- non-vacuity: a two-column table through the three bindings, and a 3-byte value in a 2- and a 5-byte buffer -/
example :
    let t := Table.init.run [.push "a" (.long 7), .push "b" (.str "xyz"), .endRow]
    getOpt (some t) 1 0 = (VR_OK, .long 7) ∧ getOptF (some t) 1 1 = (VR_OK, .long 7) ∧
    getOptF (some t) 1 0 = (VR_INVALIDCOL, .error VR_INVALIDCOL) ∧
    getOpt (some t) 2 0 = (VR_INVALIDROW, .error VR_INVALIDROW) ∧ rowCountF t.rowCountAPI = 1 ∧
    vtypeReported (.long 7) = 3 ∧
    padF 2 [120, 121, 122] = ([120, 121], 3) ∧ padF 5 [120, 121, 122] = ([120, 121, 122, 32, 32], 3) := by
  decide +kernel

end PhreeqcVerif.SelOut
