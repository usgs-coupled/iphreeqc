import PhreeqcVerif.Lemmas.Route
import PhreeqcVerif.Properties.C05
/-!
# Routing theorems (C05, C09): file, string, line and table views of one event stream
-/
namespace PhreeqcVerif.Route
open PhreeqcVerif.SelOut

/-! ## line splitting -/

theorem splitLines_no_newline (s : List Char) : ∀ l ∈ splitLines s, '\n' ∉ l := by
  induction s using splitLines.induct with
  | case1 => simp [splitLines]
  | case2 cs ih => simpa [splitLines_newline] using ih
  | case3 c cs hc h _ => simpa [splitLines_cons_nil hc h] using Ne.symm hc
  | case4 c cs hc l ls h ih =>
    rw [h] at ih
    simpa [splitLines_cons_cons hc h, Ne.symm hc] using ih

/-- Joining the lines with '\n' gives back the string when it is empty or newline-terminated -/
theorem joinLines_splitLines (s : List Char) (h : s = [] ∨ s.getLast? = some '\n') :
    joinLines (splitLines s) = s := by
  induction s using splitLines.induct with
  | case1 => rfl
  | case2 cs ih =>
    have : cs = [] ∨ cs.getLast? = some '\n' := by
      cases cs with
      | nil => exact .inl rfl
      | cons d ds => simpa [List.getLast?_cons_cons] using h
    simpa [splitLines_newline, joinLines] using ih this
  | case3 c cs hc hs _ =>
    rw [(splitLines_eq_nil cs).1 hs] at h
    simp at h; exact absurd h hc
  | case4 c cs hc l ls hs ih =>
    have hne : cs ≠ [] := fun e => by simp [e, splitLines] at hs
    obtain ⟨d, ds, rfl⟩ := List.exists_cons_of_ne_nil hne
    have := ih (.inr (by simpa [List.getLast?_cons_cons] using h))
    rw [hs] at this
    simpa [splitLines_cons_cons hc hs, joinLines] using this

/-- line count = number of newline characters (+1 for an unterminated last line) -/
theorem splitLines_length (s : List Char) :
    (splitLines s).length =
      s.count '\n' + (if s ≠ [] ∧ s.getLast? ≠ some '\n' then 1 else 0) := by
  induction s using splitLines.induct with
  | case1 => rfl
  | case2 cs ih =>
    cases cs with
    | nil => rfl
    | cons d ds =>
      simp [splitLines_newline, ih, List.getLast?_cons_cons]
      exact Nat.add_right_comm _ _ _
  | case3 c cs hc hs _ =>
    rw [(splitLines_eq_nil cs).1 hs]; simp [splitLines, hc]
  | case4 c cs hc l ls hs ih =>
    have hne : cs ≠ [] := fun e => by simp [e, splitLines] at hs
    obtain ⟨d, ds, rfl⟩ := List.exists_cons_of_ne_nil hne
    rw [splitLines_cons_cons hc hs, List.length_cons, ← List.length_cons (a := l), ← hs, ih]
    simp [List.getLast?_cons_cons, List.count_cons, hc]

/-- line accessor: inside `0..count-1` the i-th line, outside the empty string -/
theorem lineAt_spec (ls : List (List Char)) (n : Int) :
    (0 ≤ n ∧ n < ls.length → lineAt ls n = ls.getD n.toNat []) ∧
    (n < 0 ∨ n ≥ ls.length → lineAt ls n = []) :=
  ⟨fun h => if_neg (not_or.2 ⟨Int.not_lt.2 h.1, Int.not_le.2 h.2⟩), fun h => if_pos h⟩

/-! ## plain streams (output, log) -/

/-- both sinks enabled ⇒ byte-identical content -/
theorem msgs_file_eq_string (cfg : MsgCfg) (ms : List Msg) (h1 : cfg.strOn = true)
    (h2 : cfg.fileOn = true) : (routeMsgs cfg ms).file = (routeMsgs cfg ms).str := by
  rw [(routeMsgs_eq cfg ms).1, (routeMsgs_eq cfg ms).2, h1, h2]

/-- a disabled sink receives nothing -/
theorem msgs_disabled_nothing (cfg : MsgCfg) (ms : List Msg) :
    (cfg.strOn = false → (routeMsgs cfg ms).str = []) ∧
    (cfg.fileOn = false → (routeMsgs cfg ms).file = []) := by
  constructor <;> intro h <;> simp [routeMsgs_eq, h, Msg.gated_false]

/-- switching one sink never changes what the other receives -/
theorem msgs_sinks_independent (c1 c2 : MsgCfg) (ms : List Msg) :
    (c1.strOn = c2.strOn → (routeMsgs c1 ms).str = (routeMsgs c2 ms).str) ∧
    (c1.fileOn = c2.fileOn → (routeMsgs c1 ms).file = (routeMsgs c2 ms).file) := by
  constructor <;> intro h <;> simp [routeMsgs_eq, h]

/-! ## error stream -/

/-- every chunk of the error string is written to the error file, in the same order -/
theorem errfile_contains_errstring (cfg : ErrCfg) (es : List ErrEv) (hf : cfg.fileOn = true) :
    (errStrChunks cfg es).Sublist (errFileChunks cfg es) := by
  induction es with
  | nil => exact .slnil
  | cons e es ih =>
    cases e with
    | err on stop t =>
      simp only [errStrChunks, errFileChunks, hf, Bool.true_and]
      cases on <;> cases cfg.errStrOn <;> cases stop <;> simp [ih, ih.cons, (ih.cons _).cons]
    | warn on t =>
      simp only [errStrChunks, errFileChunks, hf, Bool.true_and]
      cases on <;> simp [ih, ih.cons]

/-- the error string is non-empty-chunked exactly when an ERROR was recorded with recording on -/
theorem errStr_nil_of_disabled (cfg : ErrCfg) (es : List ErrEv) (h : cfg.errStrOn = false) :
    errStrChunks cfg es = [] := by
  induction es with
  | nil => rfl
  | cons e es ih => cases e <;> simp [errStrChunks, h, ih]

theorem errStr_length_le (cfg : ErrCfg) (es : List ErrEv) :
    (errStrChunks cfg es).length ≤ errCount es := by
  induction es with
  | nil => exact Nat.le_refl 0
  | cons e es ih =>
    cases e with
    | err on stop t =>
      simp only [errStrChunks, errCount]
      split
      · exact Nat.succ_le_succ ih
      · exact Nat.le_succ_of_le ih
    | warn on t => exact ih

/-- with recording enabled and `error_on` set at every event, one chunk per ERROR event -/
theorem errStr_length_eq (cfg : ErrCfg) (es : List ErrEv) (h : cfg.errStrOn = true)
    (hon : ∀ e ∈ es, match e with | .err on _ _ => on = true | .warn _ _ => True) :
    (errStrChunks cfg es).length = errCount es := by
  induction es with
  | nil => simp [errStrChunks, errCount]
  | cons e es ih =>
    have ih' := ih (fun e he => hon e (by simp [he]))
    cases e with
    | err on stop t =>
      have : on = true := by simpa using hon (.err on stop t) (by simp)
      simp [errStrChunks, errCount, h, this, ih']
    | warn on t => simpa [errStrChunks, errCount] using ih'

/-! ## selected output -/

theorem upd_other {β} (f : Int → β) (n m : Int) (g : β → β) (h : m ≠ n) : upd f n g m = f m := by
  rw [upd_apply, if_neg (Ne.symm h)]

/-- **file = string**, general form. If the punch file of `n` is opened once in the call, before any text
is punched for `n` (`pre` carries no text of `n`), and both switches of `n` are on, the file and the string
hold byte-identical content — for every event trace. -/
theorem punch_file_eq_string (cfg : PCfg) (pre post : List PEv) (n : Int)
    (h1 : cfg.strOn n = true) (h2 : cfg.fileOn n = true)
    (hpre : (pre.filter (·.user = n)).flatMap PEv.text = [])
    (hpost : ∀ e ∈ post, e ≠ .reopen n) :
    (routePunch cfg (pre ++ [PEv.reopen n] ++ post)).file n =
      (routePunch cfg (pre ++ [PEv.reopen n] ++ post)).str n := by
  rw [routePunch_str, routePunch, PSinks.foldl_file_reopen cfg pre post _ n hpost, h1, h2,
    flatMap_textFor_reopen post hpre]

/-- without any re-open in the call (file already attached), same conclusion from empty sinks -/
theorem punch_file_eq_string_noopen (cfg : PCfg) (evs : List PEv) (n : Int)
    (h1 : cfg.strOn n = true) (h2 : cfg.fileOn n = true) (hno : ∀ e ∈ evs, e ≠ .reopen n) :
    (routePunch cfg evs).file n = (routePunch cfg evs).str n := by
  rw [routePunch_str, routePunch, PSinks.foldl_file cfg evs _ n hno, h1, h2]
  rfl

/-- a file re-opened after text was punched (SELECTED_OUTPUT redefined inside one call) holds only the
text punched since, while the string keeps everything: the two differ on this concrete trace -/
theorem reopen_after_text_differs :
    let cfg : PCfg := ⟨fun _ => true, fun _ => true⟩
    let evs := [PEv.reopen 1, .msg 1 true "h1\n".toList, .reopen 1, .msg 1 true "h2\n".toList]
    (routePunch cfg evs).file 1 = "h2\n".toList ∧ (routePunch cfg evs).str 1 = "h1\nh2\n".toList := by
  decide +kernel

/-- a disabled selected-output sink receives nothing -/
theorem punch_disabled_nothing (cfg : PCfg) (evs : List PEv) (n : Int) :
    (cfg.strOn n = false → (routePunch cfg evs).str n = []) ∧
    (cfg.fileOn n = false → (routePunch cfg evs).file n = []) := by
  constructor
  · intro h; simp [routePunch_str, h, PEv.textFor_false]
  · intro h
    exact List.foldlRecOn (motive := fun s : PSinks => s.file n = []) evs _ rfl
      (fun s hs e _ => by simp [s.step_file, hs, h, PEv.textFor_false])

/-- the table does not depend on any switch -/
theorem table_switch_independent (c1 c2 : PCfg) (evs : List PEv) (n : Int) :
    (routePunch c1 evs).tab n = (routePunch c2 evs).tab n := by
  rw [routePunch_tab, routePunch_tab]

theorem pushPending_inv (t : Table) (p : List String) (h : t.Inv) : (pushPending t p).Inv :=
  List.foldlRecOn p _ h (fun t ht x _ => inv_pushBack t x .empty ht)

theorem tabFor_inv (n : Int) (e : PEv) (t : Table) (h : t.Inv) : (e.tabFor n t).Inv := by
  cases e with
  | val m on name v r =>
    simp only [PEv.tabFor]
    split
    · exact inv_pushBack _ _ _ h
    · exact h
  | endRow m p =>
    simp only [PEv.tabFor]
    split
    · exact (inv_endRow _ (pushPending_inv _ _ h)).1
    · exact h
  | _ => exact h

/-- every table reachable by any event trace satisfies the table invariant
(each row has exactly ColumnCount cells once its row is ended) -/
theorem route_tables_inv (cfg : PCfg) (evs : List PEv) (n : Int) :
    ((routePunch cfg evs).tab n).Inv :=
  routePunch_tab cfg evs n ▸ List.foldlRecOn evs _ inv_init fun t ht e _ => tabFor_inv n e t ht

/-- the current defect (known finding): with the code's switch rule all user numbers follow the
switch of the *current* number — exhibited on a concrete trace: user 2's switch is off, yet its
string sink receives the text because user 1 (current) has the switch on -/
theorem codeStrOn_violates_per_user_switch :
    let sw : Int → Bool := fun n => n == 1
    let ev := [PEv.msg 2 true "x\n".toList]
    (routePunch ⟨codeStrOn sw 1, fun _ => false⟩ ev).str 2 = "x\n".toList ∧
    (routePunch ⟨specStrOn sw, fun _ => false⟩ ev).str 2 = [] := by
  decide +kernel

/-- non-vacuity of the routing theorems on a concrete two-user trace -/
example :
    let cfg : PCfg := ⟨fun _ => true, fun n => n == 1⟩
    let evs := [PEv.reopen 1, .msg 1 true "h\n".toList, .val 1 true "a" (.long 1) "1\t".toList,
                .val 2 true "b" (.str "q") "q\t".toList, .msg 1 true "\n".toList, .endRow 1 ["c"], .endRow 2 []]
    let r := routePunch cfg evs
    r.str 1 = "h\n1\t\n".toList ∧ r.file 1 = r.str 1 ∧ r.file 2 = [] ∧ r.str 2 = "q\t".toList ∧
    (r.tab 1).get 1 0 = (VR_OK, .long 1) ∧ (r.tab 1).get 1 1 = (VR_OK, .empty) ∧
    (r.tab 2).get 1 0 = (VR_OK, .str "q") ∧ splitLines (r.str 1) = ["h".toList, "1\t".toList] := by
  decide +kernel

/-! ## histories (several `Run*` calls on one instance, switches and inputs changing in between) -/

/-- **file = string in any history.** Whatever the earlier calls left on disk: if in this call the punch file
of `n` is opened once, before any text is punched for `n`, and both switches of `n` are on, then after the call
the file and the string of `n` are byte-identical. -/
theorem history_sel_file_eq_string (cfg : PCfg) (old : Int → List Char) (pre post : List PEv) (n : Int)
    (h1 : cfg.strOn n = true) (h2 : cfg.fileOn n = true)
    (hpre : (pre.filter (·.user = n)).flatMap PEv.text = [])
    (hpost : ∀ e ∈ post, e ≠ .reopen n) :
    (punchCall cfg old (pre ++ [PEv.reopen n] ++ post)).file n =
      (punchCall cfg old (pre ++ [PEv.reopen n] ++ post)).str n := by
  rw [punchCall_str, punchCall, HSinks.foldl_file_reopen cfg pre post _ n h2 hpost, h1,
    flatMap_textFor_reopen post hpre]

/-- **a disabled selected-output file receives nothing**: with the file switch of `n` off the file of `n`
on disk is what the earlier calls left there — for every event trace. -/
theorem history_sel_file_untouched (cfg : PCfg) (old : Int → List Char) (evs : List PEv) (n : Int)
    (h : cfg.fileOn n = false) : (punchCall cfg old evs).file n = old n := by
  rw [punchCall, (HSinks.foldl_file cfg evs _ n (fun e _ => by simp [h])).2]
  simp [PEv.textFor_false]

/-- without a `punch_open` for `n` in the call nothing reaches the file of `n`, even with the switch on
(no stream is attached after `close_output_files` of the previous call) -/
theorem history_sel_file_unopened (cfg : PCfg) (old : Int → List Char) (evs : List PEv) (n : Int)
    (hno : ∀ e ∈ evs, e ≠ .reopen n) : (punchCall cfg old evs).file n = old n := by
  rw [punchCall, (HSinks.foldl_file cfg evs _ n (fun e he => by simp [PEv.opens_of_ne (hno e he)])).2]
  simp [PEv.textFor_false]

/-- the heading of a block written before its file is opened reaches the string only: the trace recorded for
user number 2 in a second call that does not redefine two file-backed blocks -/
theorem heading_before_open_differs :
    let cfg : PCfg := ⟨fun _ => true, fun _ => true⟩
    let evs := [PEv.reopen 1, .msg 1 true "pH\n".toList, .msg 2 true "pe\n".toList, .reopen 2,
                .msg 2 true "pe\n".toList, .val 2 true "pe" (.long 4) "4".toList, .msg 2 true "\n".toList,
                .endRow 2 []]
    (punchCall cfg (fun _ => "old\n".toList) evs).file 2 = "pe\n4\n".toList ∧
    (punchCall cfg (fun _ => "old\n".toList) evs).str 2 = "pe\npe\n4\n".toList ∧
    (punchCall cfg (fun _ => "old\n".toList) evs).file 1 = (punchCall cfg (fun _ => "old\n".toList) evs).str 1 := by
  decide +kernel

/-- **views are functions of the last call only**: strings, line vectors and tables shown after a call do not
depend on anything earlier calls left behind -/
theorem call_views_forget (i j : Inst) (c : CallCfg) (e : CallEvs) :
    (i.call c e).views.outStr = (j.call c e).views.outStr ∧
    (i.call c e).views.outLines = (j.call c e).views.outLines ∧
    (i.call c e).views.logStr = (j.call c e).views.logStr ∧
    (i.call c e).views.logLines = (j.call c e).views.logLines ∧
    (i.call c e).views.errStr = (j.call c e).views.errStr ∧
    (i.call c e).views.errLines = (j.call c e).views.errLines ∧
    (i.call c e).views.warnStr = (j.call c e).views.warnStr ∧
    (i.call c e).views.warnLines = (j.call c e).views.warnLines ∧
    (∀ n, (i.call c e).views.selStr n = (j.call c e).views.selStr n) ∧
    (∀ n, (i.call c e).views.selLines n = (j.call c e).views.selLines n) ∧
    (∀ n, (i.call c e).views.tab n = (j.call c e).views.tab n) := by
  have hs : ∀ n, (punchCall c.sel i.disk.sel e.pevs).str n = (punchCall c.sel j.disk.sel e.pevs).str n := by
    intro n; rw [punchCall_str, punchCall_str]
  refine ⟨rfl, rfl, rfl, rfl, rfl, rfl, rfl, rfl, hs, ?_, fun n => (punchCall_tab ..).trans (punchCall_tab ..).symm⟩
  intro n; simp only [Inst.call]; rw [hs n]

/-- after any history the views are those of the last call run on a fresh instance -/
theorem run_views_last (h : List (CallCfg × CallEvs)) (c : CallCfg) (e : CallEvs) (n : Int) :
    let a := (Inst.run {} (h ++ [(c, e)])).views
    let b := (Inst.call {} c e).views
    a.outStr = b.outStr ∧ a.outLines = b.outLines ∧ a.logLines = b.logLines ∧ a.errLines = b.errLines ∧
    a.selStr n = b.selStr n ∧ a.selLines n = b.selLines n ∧ a.tab n = b.tab n := by
  simp only [Inst.run, List.foldl_append, List.foldl_cons, List.foldl_nil]
  obtain ⟨h1, h2, _, h4, _, h6, _, _, h9, h10, h11⟩ :=
    call_views_forget (h.foldl (fun i ce => i.call ce.1 ce.2) {}) {} c e
  exact ⟨h1, h2, h4, h6, h9 n, h10 n, h11 n⟩

/-- output and log in a history call: the file is re-created at the start of a call whose file switch is on,
so with both switches on file and string are byte-identical whatever was on disk; with the file switch off
the file on disk is untouched; a disabled string sink is empty -/
theorem call_msg_streams (i : Inst) (c : CallCfg) (e : CallEvs) :
    (c.out.fileOn = true → c.out.strOn = true → (i.call c e).disk.out = (i.call c e).views.outStr) ∧
    (c.log.fileOn = true → c.log.strOn = true → (i.call c e).disk.log = (i.call c e).views.logStr) ∧
    (c.out.fileOn = false → (i.call c e).disk.out = i.disk.out) ∧
    (c.log.fileOn = false → (i.call c e).disk.log = i.disk.log) ∧
    (c.err.fileOn = false → (i.call c e).disk.err = i.disk.err) ∧
    (c.out.strOn = false → (i.call c e).views.outStr = [] ∧ (i.call c e).views.outLines = []) ∧
    (c.log.strOn = false → (i.call c e).views.logStr = [] ∧ (i.call c e).views.logLines = []) := by
  simp only [Inst.call, openTrunc]
  refine ⟨?_, ?_, ?_, ?_, ?_, ?_, ?_⟩
  · intro h1 h2; simp [h1, msgs_file_eq_string c.out e.outs h2 h1]
  · intro h1 h2; simp [h1, msgs_file_eq_string c.log e.logs h2 h1]
  · intro h; simp [h, (msgs_disabled_nothing c.out e.outs).2 h]
  · intro h; simp [h, (msgs_disabled_nothing c.log e.logs).2 h]
  · intro h; simp [h, errFile_nil_of_disabled c.err e.errs h]
  · intro h; simp [h, (msgs_disabled_nothing c.out e.outs).1 h]
  · intro h; simp [h, (msgs_disabled_nothing c.log e.logs).1 h]

/-- line vectors of a history call: the lines of this call's string when the switch is on, nothing otherwise;
a disabled selected-output string sink is empty -/
theorem call_lines_spec (i : Inst) (c : CallCfg) (e : CallEvs) (n : Int) :
    (c.out.strOn = true → (i.call c e).views.outLines = splitLines (i.call c e).views.outStr) ∧
    (c.log.strOn = true → (i.call c e).views.logLines = splitLines (i.call c e).views.logStr) ∧
    (i.call c e).views.errLines = splitLines (i.call c e).views.errStr ∧
    (c.sel.strOn n = true → (i.call c e).views.selLines n = splitLines ((i.call c e).views.selStr n)) ∧
    (c.sel.strOn n = false → (i.call c e).views.selLines n = [] ∧ (i.call c e).views.selStr n = []) := by
  refine ⟨fun h => if_pos h, fun h => if_pos h, rfl, fun h => if_pos h, fun h => ⟨if_neg (by simp [h]), ?_⟩⟩
  show (punchCall c.sel i.disk.sel e.pevs).str n = []
  rw [punchCall_str, h]
  simp [PEv.textFor_false]

/-- non-vacuity: two calls; the second keeps the file switch of 1 on without re-opening (file keeps the first
call's content), turns the output file off (file keeps call 1's text) and the output string on -/
example :
    let c1 : CallCfg := ⟨⟨false, true⟩, ⟨false, false⟩, ⟨true, true, false⟩, ⟨fun _ => true, fun _ => true⟩⟩
    let c2 : CallCfg := ⟨⟨true, false⟩, ⟨false, false⟩, ⟨true, true, false⟩, ⟨fun _ => false, fun _ => true⟩⟩
    let e1 : CallEvs := { outs := [⟨true, "a\n".toList⟩], pevs := [.reopen 1, .msg 1 true "h\n".toList] }
    let e2 : CallEvs := { outs := [⟨true, "b\n".toList⟩], pevs := [.msg 1 true "h\n".toList] }
    let r := Inst.run {} [(c1, e1), (c2, e2)]
    r.disk.out = "a\n".toList ∧ r.views.outStr = "b\n".toList ∧ r.views.outLines = ["b".toList] ∧
    r.disk.sel 1 = "h\n".toList ∧ r.views.selStr 1 = [] ∧ r.views.selLines 1 = [] := by
  decide +kernel

/-! ## heading lines per call (`do_run` prologue) -/

/-- **one heading line per block and call with the hoisted loop.** First simulation of a call that reads no
SELECTED_OUTPUT block: every defined block gets exactly one heading line, whatever the file switches,
attachments and the PRINT -selected_output state. -/
theorem first_sim_heads_hoisted (fileSw : Int → Bool) (prPunch : Bool) (s : SoSt) (hn : s.defs.Nodup)
    (n : Int) :
    countHead n (simPrologue true fileSw true prPunch true [] s).2 = if n ∈ s.defs then 1 else 0 := by
  rw [simPrologue_hoisted_first, countHead_opened_heads n _ hn]

/-- with the hoisted loop every `punch_open` of a call's first-simulation prologue precedes every heading line: no
heading is written for a block before its file is open — the hypothesis `hpre` of `history_sel_file_eq_string` for the
prologue (for the loop as it was, `first_sim_heads_inloop_witness` shows `head 2` before `opened 2`) -/
theorem first_sim_open_before_head_hoisted (fileSw : Int → Bool) (prPunch : Bool) (s : SoSt) :
    ∃ os hs : List Int, (simPrologue true fileSw true prPunch true [] s).2 = os.map Sk.opened ++ hs.map Sk.head :=
  ⟨_, _, simPrologue_hoisted_first fileSw prPunch s⟩

/-- **partial** (the loop with `tidy_punch` inside it, `openLoopIn`): when at most one block has to be opened in the
first simulation of a call that reads no SELECTED_OUTPUT block, every block gets exactly one heading line.
Full statement (false for that loop, see `first_sim_heads_inloop_witness`):
  `∀ fileSw s, s.defs.Nodup → n ∈ s.defs → countHead n (simPrologue false fileSw true true true [] s).2 = 1`. -/
theorem first_sim_heads_inloop_partial (fileSw : Int → Bool) (s : SoSt) (hn : s.defs.Nodup) (n : Int)
    (hone : (∀ x ∈ s.defs, (fileSw x && !s.att x) = false) ∨
      ∃ pre d post, s.defs = pre ++ d :: post ∧ (∀ x ∈ pre, (fileSw x && !s.att x) = false) ∧
        (fileSw d && !s.att d) = true ∧ (∀ x ∈ post, (fileSw x && !s.att x) = false)) :
    countHead n (simPrologue false fileSw true true true [] s).2 = if n ∈ s.defs then 1 else 0 := by
  suffices ∃ os : List Int,
      (simPrologue false fileSw true true true [] s).2 = os.map Sk.opened ++ s.defs.map Sk.head by
    obtain ⟨os, e⟩ := this
    rw [e, countHead_opened_heads n os hn]
  cases he : s.defs.isEmpty
  · simp only [simPrologue, readBlocks, openLoop, Bool.true_and, he, Bool.not_false, if_true, Bool.false_eq_true,
      if_false, List.nil_append]
    rcases hone with h0 | ⟨pre, d, post, hdefs, hpre, hd, hpost⟩
    · rw [openLoopIn_none fileSw s.defs { s with newDef := fun _ => true } [] h0]
      exact ⟨[], by simp [tidyPunch, filter_const_true]⟩
    · have hnd : d ∉ post := by
        rw [hdefs] at hn
        exact (List.nodup_cons.1 (List.nodup_append.1 hn).2.1).1
      obtain ⟨h1, h2⟩ := openLoopIn_one fileSw pre post d { s with newDef := fun _ => true } [] hpre hd hpost hnd
      rw [← hdefs] at h1 h2
      have hall : s.defs.filter (upd (fun _ => true) d (fun _ => true)) = s.defs :=
        List.filter_eq_self.2 (fun x _ => by simp [upd])
      exact ⟨[d], by simp [h1, tidyPunch, h2, hall, filter_const_false]⟩
  · exact ⟨[], by simp [simPrologue, readBlocks, tidyPunch, List.isEmpty_iff.1 he]⟩

/-- the loop with `tidy_punch` inside it gives the second file-backed block two heading lines (first call after the
definitions were read in an earlier call; both file switches on); the hoisted loop gives one -/
theorem first_sim_heads_inloop_witness :
    let s : SoSt := { defs := [1, 2] }
    (simPrologue false (fun _ => true) true true true [] s).2 =
      [Sk.opened 1, Sk.head 1, Sk.head 2, Sk.opened 2, Sk.head 2] ∧
    countHead 2 (simPrologue false (fun _ => true) true true true [] s).2 = 2 ∧
    (simPrologue true (fun _ => true) true true true [] s).2 =
      [Sk.opened 1, Sk.opened 2, Sk.head 1, Sk.head 2] := by
  decide +kernel

/-- reading a block (re)creates it with `new_def` set: its heading is written once by the `tidy_punch` of
`tidy_model`, and nothing is written for blocks that are neither new nor re-read in a later simulation -/
example :
    let s : SoSt := { defs := [1, 2], att := fun n => n == 1 }
    (simPrologue false (fun _ => true) false true true [(3, true), (1, false)] s).2 =
      [Sk.opened 3, Sk.opened 2, Sk.head 2, Sk.head 3] := by
  decide +kernel

/-! ## print formats -/

/-- under `-high_precision true` every double-valued result column is printed with 12 decimals in scientific
notation in a 20-character field -/
theorem fmtOf_high_precision (k : ColKind) (h : k = .gE ∨ k = .e4 ∨ k = .f3 ∨ k = .f4) :
    fmtOf true k = "%20.12e\t" := by
  rcases h with h | h | h | h <;> subst h <;> rfl

/-- the precision flag changes the format of every built-in column class -/
theorem fmtOf_flag_matters (k : ColKind) (h : ∀ len tab, k ≠ .userStr len tab) :
    fmtOf true k ≠ fmtOf false k := by
  cases k with
  | userStr len tab => exact absurd rfl (h len tab)
  | _ => decide +kernel

/-- USER_PUNCH strings: never truncated — the bounded format is chosen only when the string fits the field -/
theorem fmtOf_userStr (hp : Bool) (len : Nat) (tab : Bool) :
    (len ≤ fieldWidth hp → fmtOf hp (.userStr len tab) =
        (if hp then "%20.20s" else "%12.12s") ++ (if tab then "\t" else "")) ∧
    (fieldWidth hp < len → fmtOf hp (.userStr len tab) = "%s" ++ (if tab then "\t" else "")) := by
  constructor
  · intro h; simp [fmtOf, h]
  · intro h; simp [fmtOf, Nat.not_le.2 h]

/-! ## dump stream -/

/-- invariant of a history run with both dump sinks on: file = string, and a non-empty selection is armed -/
def DumpSt.Sync (s : DumpSt) : Prop := s.file = s.str ∧ (s.info.any = true → s.info.on = true)

theorem dumpStep_sync (prDump : Bool) (s : DumpSt) (sim : Option (Option Bool) × List Char) (h : s.Sync) :
    (dumpStep true true prDump s sim).Sync := by
  have key : ∀ st : DumpSt, st.Sync → (dumpSim true true prDump sim.2 st).Sync := by
    intro st ⟨hf, ha⟩
    simp only [DumpSt.Sync, dumpSim_file, dumpSim_str, dumpSim_info, Bool.true_and, if_true, hf]
    by_cases hany : st.info.any = true
    · cases prDump <;> simp [hany, ha hany]
    · cases prDump <;> simp [hany]
  rcases sim with ⟨_ | app, d⟩
  · exact key s h
  · exact key _ ⟨h.1, fun _ => rfl⟩

/-- **dump file = dump string** for every history of simulations (DUMP blocks with or without -append, simulations
without DUMP, PRINT -dump on or off per simulation, over any number of calls) during which both switches stay on,
started from a synchronised state — in particular from a fresh instance -/
theorem dump_both_on_identical (sims : List (Bool × Option (Option Bool) × List Char)) (s : DumpSt) (h : s.Sync) :
    (sims.foldl (dumpStepP true true) s).file = (sims.foldl (dumpStepP true true) s).str :=
  (List.foldlRecOn (motive := DumpSt.Sync) sims _ h (fun st hs x _ => dumpStep_sync x.1 st x.2 hs)).1

theorem dump_fresh_sync : ({} : DumpSt).Sync := ⟨rfl, by simp⟩

/-- a disabled dump sink receives nothing -/
theorem dump_disabled_nothing (fileOn strOn prDump : Bool) (s : DumpSt) (sim : Option (Option Bool) × List Char) :
    (fileOn = false → (dumpStep fileOn strOn prDump s sim).file = s.file) ∧
    (strOn = false → (dumpStep fileOn strOn prDump s sim).str = s.str) := by
  rcases sim with ⟨_ | app, d⟩ <;> constructor <;> intro h <;>
    simp [dumpStep, dumpSim_file, dumpSim_str, h, DumpSt.readDump]

/-- -append: the new text is added behind what the sink held, otherwise it replaces it; a DUMP block without the
option keeps the flag of the previous block -/
theorem dump_append_semantics (d : List Char) (s : DumpSt) (app : Option Bool) :
    (dumpStep true true true s (some app, d)).file = (if app.getD s.info.append then s.file ++ d else d) ∧
    (dumpStep true true true s (some app, d)).str = (if app.getD s.info.append then s.str ++ d else d) := by
  simp [dumpStep, dumpSim_file, dumpSim_str, DumpSt.readDump, putDump]

/-- a DUMP block is executed once: after the simulation that read it (whichever sink was on), a simulation without
a DUMP block writes nothing to either sink, whatever the switches are then -/
theorem dump_one_shot (f1 s1 f2 s2 : Bool) (h : f1 = true ∨ s1 = true) (st : DumpSt) (app : Option Bool) (d e : List Char) :
    let a := dumpStep f1 s1 true st (some app, d)
    (dumpStep f2 s2 true a (none, e)).file = a.file ∧ (dumpStep f2 s2 true a (none, e)).str = a.str := by
  have hany : (dumpSim f1 s1 true d (st.readDump app)).info.any = false := by
    cases f1 <;> cases s1 <;> simp [dumpSim_info, DumpSt.readDump] at h ⊢
  simp [dumpStep, dumpSim_file, dumpSim_str, hany]

/-- PRINT -dump false: neither sink receives anything and the DUMP request stays pending (regression of f2ff7714: the
string sink used to ignore `pr.dump`) -/
theorem dump_print_off_nothing (fileOn strOn : Bool) (s : DumpSt) (sim : Option (Option Bool) × List Char) :
    (dumpStep fileOn strOn false s sim).file = s.file ∧ (dumpStep fileOn strOn false s sim).str = s.str ∧
    (dumpStep fileOn strOn false s (some (some false), sim.2)).info = ⟨true, true, false⟩ := by
  rcases sim with ⟨_ | app, d⟩ <;>
    simp [dumpStep, dumpSim_file, dumpSim_str, dumpSim_info, DumpSt.readDump]

/-- non-vacuity: both sinks on over four simulations (DUMP -append, no DUMP, DUMP under PRINT -dump false, then
PRINT -dump true): one dump per DUMP block, the suppressed request is executed when printing is switched on again -/
example :
    let st : DumpSt := { file := "x".toList, str := "x".toList }
    let r := [(true, some (some true), "a".toList), (true, none, "b".toList), (false, some (some false), "c".toList)].foldl
      (dumpStepP true true) st
    r.file = "xa".toList ∧ r.str = "xa".toList ∧
    (dumpStepP true true r (true, none, "d".toList)).file = "d".toList ∧
    (dumpStepP true true r (true, none, "d".toList)).str = "d".toList := by
  decide +kernel

/-! ## calls without a loaded database, failed database loads -/

/-- a `Run*` call without a database treats the files and strings exactly like a call whose `do_run` produced no
punch event: files whose switch is on are re-created and hold this call's text, so file = string with both sinks on,
a file whose switch is off is untouched (all of `call_msg_streams` carries over) -/
theorem callNoDb_streams (refreshed : Bool) (i : Inst) (c : CallCfg) (e : CallEvs) :
    (i.callNoDb refreshed c e).disk = (i.call c { e with pevs := [] }).disk ∧
    (i.callNoDb refreshed c e).views.outStr = (i.call c { e with pevs := [] }).views.outStr ∧
    (i.callNoDb refreshed c e).views.logStr = (i.call c { e with pevs := [] }).views.logStr ∧
    (i.callNoDb refreshed c e).views.errStr = (i.call c { e with pevs := [] }).views.errStr ∧
    (i.callNoDb refreshed c e).views.errLines = (i.call c { e with pevs := [] }).views.errLines := by
  cases refreshed <;> simp [Inst.callNoDb]

/-- with the line vectors re-split after the error, the line accessors show the lines of the string -/
theorem callNoDb_lines_refreshed (i : Inst) (c : CallCfg) (e : CallEvs) :
    (c.out.strOn = true → (i.callNoDb true c e).views.outLines = splitLines (i.callNoDb true c e).views.outStr) ∧
    (c.log.strOn = true → (i.callNoDb true c e).views.logLines = splitLines (i.callNoDb true c e).views.logStr) := by
  constructor <;> intro h <;> simp [Inst.callNoDb, Inst.call, h]

/-- witness: without the re-split (`check_database` raising the error before `do_run` can split) the output
string holds the error line while the line accessors show nothing. Full statement (true only when `refreshed`):
`c.out.strOn → outLines = splitLines outStr`. -/
theorem callNoDb_lines_stale_witness :
    let c : CallCfg := ⟨⟨true, true⟩, ⟨false, false⟩, ⟨true, true, true⟩, ⟨fun _ => false, fun _ => false⟩⟩
    let e : CallEvs := { outs := [⟨true, "ERROR: no db\n".toList⟩], errs := [.err true true "ERROR: no db\n".toList] }
    let r := Inst.callNoDb false {} c e
    r.views.outStr = "ERROR: no db\n".toList ∧ r.views.outLines = [] ∧ r.disk.out = r.views.outStr ∧
    r.disk.err = "ERROR: no db\nStopping.\n".toList ∧ r.views.errLines = ["ERROR: no db".toList] := by
  decide +kernel

/-- a failed load writes no file; error and warning views are those of the load alone; the output and log strings
keep the earlier text and get the messages of the load appended -/
theorem loadFail_spec (refreshed : Bool) (i : Inst) (c : CallCfg) (e : CallEvs) :
    (i.loadFail refreshed c e).disk = i.disk ∧
    (i.loadFail refreshed c e).views.outStr = i.views.outStr ++ (routeMsgs ⟨c.out.strOn, false⟩ e.outs).str ∧
    (i.loadFail refreshed c e).views.errLines = splitLines (i.loadFail refreshed c e).views.errStr ∧
    (∀ n, (i.loadFail refreshed c e).views.selLines n = [] ∧ (i.loadFail refreshed c e).views.selStr n = []) := by
  cases refreshed <;> simp [Inst.loadFail]

theorem loadFail_lines_refreshed (i : Inst) (c : CallCfg) (e : CallEvs) (h : c.out.strOn = true) :
    (i.loadFail true c e).views.outLines = splitLines (i.loadFail true c e).views.outStr := by
  simp [Inst.loadFail, h]

/-- witness: without the re-split a failed load leaves the line accessors showing the previous call's lines
although the string has grown by the error line -/
theorem loadFail_lines_stale_witness :
    let c : CallCfg := ⟨⟨true, false⟩, ⟨false, false⟩, ⟨true, true, false⟩, ⟨fun _ => false, fun _ => false⟩⟩
    let i := Inst.call {} c { outs := [⟨true, "run\n".toList⟩] }
    let r := i.loadFail false c { outs := [⟨true, "ERROR: load\n".toList⟩] }
    r.views.outStr = "run\nERROR: load\n".toList ∧ r.views.outLines = ["run".toList] := by
  decide +kernel

end PhreeqcVerif.Route
