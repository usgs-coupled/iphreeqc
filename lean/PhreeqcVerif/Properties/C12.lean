import PhreeqcVerif.Gen.RKTableau
import PhreeqcVerif.Lemmas.RK
import PhreeqcVerif.Lemmas.KinTime
import Mathlib.Tactic.Ring
import Mathlib.Tactic.SplitIfs
import Mathlib.Tactic.LinearCombination
/-! # C12 — kinetic reactions transfer exactly what they integrate, within tolerance

Obligations on the integrator data **regenerated from the current source** (`Gen/RKTableau.lean`, written by
`tools/gen_rk.py` on every run) and theorems, for all inputs, about the executable model of `rk_kinetics`
(`Model/RK.lean`, bit-for-bit checked against the real code by `tools/props/c12.py`) and of the time bookkeeping
(`Model/KinTime.lean`). -/
namespace PhreeqcVerif.C12
open PhreeqcVerif PhreeqcVerif.RK PhreeqcVerif.Gen.RKTableau

/-! ## 1. The tableau read from `rk_kinetics` -/

/-- the nodes at which the rates are evaluated are the row sums of the stage combinations -/
theorem row_sums_are_nodes : rowSumsOk A c = true := by decide +kernel

/-- all 17 rooted-tree conditions up to order 5 hold for the weights of the accepted result -/
theorem order5_conditions : condsHold (order5Conds A b c) = true := by decide +kernel

/-- the result the error estimate compares with (`b - d`) satisfies the 8 conditions of order 4 … -/
theorem embedded_order4 : condsHold (order4Conds A (embedded b d) c) = true := by decide +kernel

/-- … and not those of order 5: the error estimate is not identically zero (the two results differ at h⁵) -/
theorem embedded_not_order5 : condsHold (order5Only A (embedded b d) c) = false := by decide +kernel

/-- the error weights are the initialisers `dc_i = c_i - <literal>` and they sum to zero -/
theorem error_weights_split : (d == (dMin.zip dSub).map (fun p => p.1 - p.2)) = true ∧ (sumL d == 0) = true := by
  decide +kernel

/-- early exits of `-runge_kutta 1/2/3`: the weights sum to one (consistent, order 1) … -/
theorem early_exit_weights_sum_one : (sumL e1 == 1 && sumL e2 == 1 && sumL e3 == 1) = true := by decide +kernel

/-- … and that is the order they have: the second-order condition `Σ b_i c_i = 1/2` fails for the two- and three-stage
exits (they are only taken when the stage rates agree within the tolerance, see `early_exit_close_to_euler`) -/
theorem early_exit_order_one :
    (dotL e2 (c.take 2) == 1/2) = false ∧ (dotL e3 (c.take 3) == 1/2) = false ∧ (dotL e1 (c.take 1) == 1/2) = false := by
  decide +kernel

/-- the early exits are only taken when the stage values agree with k1 within the tolerance (`equal_rate`): the amount
they transfer then differs from the Euler amount `k1` by at most 0.7 tol (two stages) resp. 3.5 tol (three stages) -/
theorem early_exit_close_to_euler (k1 k2 k3 tol : Rat) (h2 : |k2 - k1| ≤ tol) (h3 : |k3 - k1| ≤ tol) :
    |dotL e2 [k1, k2] - k1| ≤ 7 / 10 * tol ∧ |dotL e3 [k1, k2, k3] - k1| ≤ 7 / 2 * tol := by
  obtain ⟨l2, u2⟩ := abs_le.mp h2
  obtain ⟨l3, u3⟩ := abs_le.mp h3
  simp only [e2, e3, dotL_cons, dotL_nil]
  refine ⟨abs_le.mpr ⟨?_, ?_⟩, abs_le.mpr ⟨?_, ?_⟩⟩
  · linear_combination (7/10) * l2
  · linear_combination (7/10) * u2
  · linear_combination 2 * l3 + (3/2) * u2
  · linear_combination 2 * u3 + (3/2) * l2

/-- the step-control constants are in the ranges `genParams_ctrl` needs; moreover `moles_max` is positive (the `hm` of
`fresh_attempt_reduces`) and both exponents are negative (so `PowHyp.le_one` is what `pow` does) -/
theorem control_constants :
    (0 < safety ∧ safety ≤ 1 ∧ 0 < growFactor ∧ 0 ≤ growThreshold ∧ 0 < molesMax ∧ shrinkExp < 0 ∧ growExp < 0) := by
  decide +kernel

/-! ## 2. Consequences for every input -/

/-- zero-order (constant) rate: all stage values equal `k`; the accepted result is `k`, the error estimate is 0 and every
stage reaction is `c_i k` — for every sub-step size, hence for every division of the time step -/
theorem constant_rate_exact (k : Rat) :
    dotL b (List.replicate 6 k) = k ∧ dotL d (List.replicate 6 k) = 0 ∧
    (A.map fun r => dotL r (List.replicate r.length k)) = c.map (· * k) := by
  have hb : sumL b = 1 := by decide +kernel
  have hd : sumL d = 0 := eq_of_beq error_weights_split.2
  have hA : A.map sumL = c := eq_of_beq row_sums_are_nodes
  refine ⟨?_, ?_, ?_⟩
  · exact (dotL_replicate b k).trans (by rw [hb, one_mul])
  · exact (dotL_replicate d k).trans (by rw [hd, zero_mul])
  · simp only [dotL_replicate, ← hA, List.map_map]
    rfl

/-- sub-steps that sum to `T` transfer `r·T` for a constant rate `r`, however `T` is divided -/
theorem constant_rate_any_division (r : Rat) (hs : List Rat) : (hs.map (r * ·)).sum = r * hs.sum := by
  induction hs with
  | nil => exact (mul_zero r).symm
  | cons h t ih => rw [List.map_cons, List.sum_cons, List.sum_cons, ih, mul_add]

/-- a rate that is a polynomial of degree ≤ 4 in time is integrated exactly by one step of any size -/
theorem quadrature_exact_deg4 (a0 a1 a2 a3 a4 t0 h : Rat) :
    quadStep b c (fun t => a0 + a1 * t + a2 * t^2 + a3 * t^3 + a4 * t^4) t0 h =
      (a0 * (t0 + h) + a1 * (t0 + h)^2 / 2 + a2 * (t0 + h)^3 / 3 + a3 * (t0 + h)^4 / 4 + a4 * (t0 + h)^5 / 5) -
      (a0 * t0 + a1 * t0^2 / 2 + a2 * t0^3 / 3 + a3 * t0^4 / 4 + a4 * t0^5 / 5) := by
  simp only [quadStep, b, c, List.map, dotL_cons, dotL_nil]
  ring

/-- … and degree 5 is not (so the statement above is sharp) -/
theorem quadrature_not_exact_deg5 : quadStep b c (fun t => t^5) 0 1 ≠ 1/6 := by
  decide +kernel

/-- first-order decay `y' = λ y`: one step multiplies the amount by `Σ_{k≤5} zᵏ/k! + z⁶/800` with `z = λh` -/
theorem stability_poly (z : Rat) :
    linStep A b z = 1 + z + z^2/2 + z^3/6 + z^4/24 + z^5/120 + z^6/800 := by
  simp only [linStep, stageVals, A, b, dotL_cons, dotL_nil, List.nil_append, List.cons_append]
  ring

/-! ## 3. The loop of `rk_kinetics` (model `RK.loop`, generated constants, any rate function, any `pow`) -/

section loop
variable (f : TransFns Rat)

/-- the model instantiated with the constants read from the source -/
def genParams (minTotal : Rat) : Params Rat := paramsOf id minTotal

/-- what is assumed about libm's `pow`: positive on positive bases, and `x^y ≤ 1` for `x > 1` at the (negative)
exponent used after a rejected step -/
structure PowHyp (pw : Rat → Rat → Rat) : Prop where
  pos : ∀ x y, 0 < x → 0 < pw x y
  le_one : ∀ x, 1 < x → pw x shrinkExp ≤ 1

theorem genParams_ctrl (minTotal : Rat) {pw : Rat → Rat → Rat} (hp : PowHyp pw) : CtrlHyp (genParams minTotal) pw :=
  have ⟨safety_pos, safety_le, grow_pos, thr_nonneg, _⟩ := control_constants
  { zero_eq := rfl, one_eq := rfl, safety_pos, safety_le, grow_pos, thr_nonneg, pw_pos := hp.pos, pw_le := hp.le_one }

/-- **error gate**: an attempted step is accepted only if the scaled error estimate `max_j |Σ dc_i k_ij| / tol_j` is ≤ 1
(and rejected only if it is > 1) — for every rate function, state and step size -/
theorem error_gate (minTotal : Rat) (F : Rat → List Rat → Rat → List Rat) (t0 : Rat) (tol : List Rat) (h hOld hSum : Rat)
    (ch ch' : Chem Rat) (e : Rat) :
    letI := ratOps f
    (pass (genParams minTotal) F t0 tol h hOld hSum ch = .accepted e ch' → e ≤ 1) ∧
    (pass (genParams minTotal) F t0 tol h hOld hSum ch = .rejected e ch' → 1 < e) :=
  ⟨pass_accepted, pass_rejected⟩

/-- when `rk_kinetics` leaves its loop normally (`h_sum ≥ kin_time`), the accepted sub-steps
sum to `kin_time` exactly and each of them passed the error gate — for every rate function, tolerance, -step_divide,
-runge_kutta, -bad_step_max and every amount of fuel -/
theorem accepted_steps_cover_T (minTotal : Rat) (pw : Rat → Rat → Rat) (hp : PowHyp pw)
    (F : Rat → List Rat → Rat → List Rat) (t0 T stepDivide : Rat) (rk : Nat) (tol m : List Rat) (bsm fuel : Nat)
    (hT : 0 < T) :
    letI := ratOps f
    (rkKinetics (genParams minTotal) pw F t0 T stepDivide rk tol m bsm fuel).1 = Status.done →
    (rkKinetics (genParams minTotal) pw F t0 T stepDivide rk tol m bsm fuel).2.1.accH.sum = T ∧
    ∀ e ∈ (rkKinetics (genParams minTotal) pw F t0 T stepDivide rk tol m bsm fuel).2.1.accErr, e ≤ 1 :=
  rkKinetics_done (genParams_ctrl minTotal hp) hT stepDivide rk m bsm fuel

end loop

/-! ## 4. Amounts never become negative -/

/-- every stage amount `m_temp - min(moles, m_temp)` is ≥ 0 when the amounts at the start of the sub-step are -/
theorem stage_amounts_nonneg (f : TransFns Rat) (moles mTemp : List Rat) (hm : ∀ x ∈ mTemp, 0 ≤ x) :
    letI := ratOps f
    ∀ x ∈ stageM (clamp moles mTemp) mTemp, 0 ≤ x := by
  intro x hx
  obtain ⟨p, hp, rfl⟩ := List.mem_map.mp hx
  exact sub_nonneg.mpr (clamp_le moles mTemp p hp)

/-- the amounts after an accepted sub-step or an early exit (`m_temp - min(moles, m_temp)`, floored at 1e-30) are ≥ 0 -/
theorem final_amounts_nonneg (f : TransFns Rat) (P : Params Rat) (hz : P.zero = 0) (moles mTemp : List Rat) :
    letI := ratOps f
    ∀ x ∈ finalM P (clamp moles mTemp) mTemp, 0 ≤ x ∨ P.tinyM ≤ x := by
  intro x hx
  obtain ⟨p, -, rfl⟩ := List.mem_map.mp hx
  dsimp only
  split_ifs with h
  exacts [Or.inl hz.ge, Or.inr (not_lt.mp h)]

/-! ## 5. Time bookkeeping -/

section time
open PhreeqcVerif.KinTime

/-- integer counters as rationals (the C casts `(LDBLE) reaction_step`, `(LDBLE) count`) -/
def natQ (n : Nat) : Rat := n

/-- kinetic times of reaction steps 1..n added up -/
def sumSteps (g : Nat → Rat) : Nat → Rat
  | 0 => 0
  | n + 1 => sumSteps g n + g (n + 1)

/-- `-steps T in n steps`, INCREMENTAL_REACTIONS true: every step gets `T/n` (`currentStep_equal_incr`), and the n
incremental times add up to the cumulative time `T` -/
theorem incremental_times_sum (f : TransFns Rat) (T : Rat) (rest : List Rat) (n : Nat) (hn : 0 < n) :
    letI := ratOps f
    sumSteps (currentStep natQ (T :: rest) n true true) n = T := by
  have key : ∀ k, k ≤ n → sumSteps (@currentStep Rat (ratOps f) natQ (T :: rest) n true true) k = k * (T / n) := by
    intro k
    induction k with
    | zero => exact fun _ => (zero_mul _).symm
    | succ k ih =>
      intro hk
      rw [sumSteps, ih (Nat.le_of_succ_le hk), currentStep_equal_incr (ops := ratOps f) natQ T rest hk, Nat.cast_succ,
        add_one_mul]
      rfl
  rw [key n le_rfl]
  exact mul_div_cancel₀ T (Nat.cast_ne_zero.mpr hn.ne')

/-- `-steps T in n steps`, cumulative bookkeeping: step `i` runs from the initial state to `i·T/n`, the last one to `T` -/
theorem cumulative_equal_last (f : TransFns Rat) (T : Rat) (rest : List Rat) (n : Nat) (hn : 0 < n) :
    letI := ratOps f
    currentStep natQ (T :: rest) n true false n = T :=
  (currentStep_equal_cum (ops := ratOps f) natQ T rest le_rfl).trans
    (mul_div_cancel_left₀ T (Nat.cast_ne_zero.mpr hn.ne'))

/-- a list of times: reaction step `i+1` gets the i-th entry in both modes (as increment or as cumulative time) -/
theorem list_step (f : TransFns Rat) (steps : List Rat) (count i : Nat) (incr : Bool) (hi : i < steps.length) :
    letI := ratOps f
    currentStep natQ steps count false incr (i + 1) = steps[i] :=
  currentStep_list (ops := ratOps f) natQ steps count incr hi

/-- **CVODE restart loop** (statements read from the current source): whatever the sequence of failed CVode calls and the
times they reached, the time covered by the failed calls plus the end time handed to the next call is the kinetic time
step — nothing is integrated twice and nothing is skipped -/
theorem restart_covers_T (tout : Rat) (lasts : List Rat) :
    (restartRun restartProg restartCallArg tout lasts).1 + (restartRun restartProg restartCallArg tout lasts).2 = tout := by
  -- one pass of the translated statements: `sum_t` grows by the time reached, the next call gets what is left
  have body : ∀ S l x3 x4 : Rat,
      restartBody restartProg [tout, S, l, x3, x4] = [tout, S + l, 0, tout - (S + l), 0] := by
    intro S l x3 x4
    simp only [restartBody, restartProg, List.foldl, evalLin, List.zip, List.zipWith, List.map, List.set]
    simp only [zero_mul, one_mul, neg_one_mul, zero_add, add_zero, ← sub_eq_add_neg]
  have key : ∀ (ls : List Rat) (S x2 x3 x4 : Rat),
      (restartRun.go restartProg restartCallArg ls [tout, S, x2, x3, x4] S (tout - S)).1 +
      (restartRun.go restartProg restartCallArg ls [tout, S, x2, x3, x4] S (tout - S)).2 = tout := by
    intro ls
    induction ls with
    | nil => exact fun S _ _ _ => add_sub_cancel S tout
    | cons l t ih =>
      intro S x2 x3 x4
      rw [restartRun.go, List.set, List.set, List.set, body]
      exact ih (S + l) 0 _ 0
  have := key lasts 0 0 0 0
  rwa [sub_zero] at this

end time

/-! ## 6. Non-vacuity of the loop and time theorems (sections 3 and 5) -/

def isAccepted : Outcome Rat → Bool | .accepted _ _ => true | _ => false
def isRejected : Outcome Rat → Bool | .rejected _ _ => true | _ => false
def exFns : TransFns Rat := ⟨id, id, id, id, id, id, id, id, id, id⟩

/-- the model runs: first-order decay `m' = -m/20` over T = 1 finishes normally in one accepted sub-step of size 1 and
the amount left is the stability polynomial at z = -1/20 -/
example :
    (letI := ratOps exFns
     let r := rkKinetics (genParams 0) (fun _ _ => 1) (fun _ m h => m.map (fun x => x / 20 * h)) 0 1 1 6 [1] [1] 500 5
     (r.1 == Status.done && r.2.1.accH == [1] && r.2.2.m == [linStep A b (-1/20)])) = true := by
  decide +kernel

/-- the gate is not trivially open: the same step with a tight tolerance is rejected, with a loose one accepted -/
example :
    (letI := ratOps exFns
     let st := init (genParams 0) 0 1 1 6 [1]
     isRejected (pass (genParams 0) (fun _ m h => m.map (fun x => x / 20 * h)) 0 [1/1000000000000] 1 1 0 st.2) &&
     isAccepted (pass (genParams 0) (fun _ m h => m.map (fun x => x / 20 * h)) 0 [1/1000] 1 1 0 st.2)) = true := by
  decide +kernel

/-- the restart loop covers T for three failed calls -/
example : PhreeqcVerif.KinTime.restartRun restartProg restartCallArg 100 [10, 25, 5] = (40, 60) := by decide +kernel

/-- and a loop that forgot the elapsed time (`tout1 = tout - cvode_last_good_time` computed before the reset) would not -/
example :
    PhreeqcVerif.KinTime.restartRun
      [(3, [1, 0, -1, 0, 0], 0), (1, [0, 1, 1, 0, 0], 0), (2, [0, 0, 0, 0, 0], 0), (4, [0, 0, 0, 0, 0], 0)] 3 100 [10, 25, 5]
      = (40, 95) := by decide +kernel

/-- incremental bookkeeping: 3 steps of 10 cover 30 -/
example :
    letI := ratOps ⟨id, id, id, id, id, id, id, id, id, id⟩
    sumSteps (PhreeqcVerif.KinTime.currentStep natQ [30] 3 true true) 3 = 30 := by decide +kernel

/-! ## 7. CVODE driver: re-start state and call counter (statements read from cvode.cpp / kinetics.cpp) -/

section cvode
open PhreeqcVerif.KinTime

/-- the hook of the current source stores the Nordsieck solution `zn[0]` and tests the same vector -/
theorem hook_reads_nordsieck : hookSaveVec = 0 ∧ hookTestVec = 0 := by decide

/-- with the hook as it is in the current source, whatever the sequence of steps, failed attempts
and corrector iterates of a CVode call, the pair (`cvode_last_good_time`, `cvode_last_good_y`) handed to a re-started call is a pair
(time, solution) that the integrator accepted — the re-start never continues from the state of a rejected attempt -/
theorem restart_state_matches_time (y0 : Rat) (steps : List (List (Rat × Rat × Bool))) :
    ((cvCall hookSaveVec (cvInit y0) steps).lastT, (cvCall hookSaveVec (cvInit y0) steps).lastY) ∈
      (cvCall hookSaveVec (cvInit y0) steps).accepted := by
  rw [hook_reads_nordsieck.1]
  exact (cvCall_inv _ steps ⟨List.mem_singleton_self _, List.mem_singleton_self _⟩).2

/-- the theorem is not vacuous: a hook that stores the work vector `y` (the code before /repo 0450d481) hands over the iterate of a
rejected attempt paired with the time before it -/
example :
    let s := cvCall 1 (cvInit 1) [[(1, 5, false), (1/2, 2, true)]]
    ((s.lastT, s.lastY) == (0, 5) && !(s.accepted.contains (s.lastT, s.lastY))) = true := by decide +kernel

example :
    let s := cvCall hookSaveVec (cvInit 1) [[(1, 5, false), (1/2, 2, true)], [(1, 3, true)]]
    ((s.lastT, s.lastY) == (1/2, 2) && s.tn == 3/2) = true := by decide +kernel

/-- the restart loop gives up exactly when the number of re-started calls reaches `-bad_step_max` (`++m_iter >= bad_step_max`);
otherwise it covers `T` (see `restart_covers_T`).  Without any failed call the counter is never looked at. -/
theorem restart_limit (bsm : Nat) (tout : Rat) (lasts : List Rat) :
    (restartLimited restartProg restartCallArg restartStopsAtGe bsm tout lasts).isSome = true ↔
      (lasts.length = 0 ∨ lasts.length < bsm) := by
  unfold restartLimited restartStopsAtGe
  simp only [if_true]
  split_ifs with h
  · obtain ⟨i, hi, hb⟩ := List.any_eq_true.mp h
    have := List.mem_range.mp hi
    have := of_decide_eq_true hb
    simp only [Option.isSome_none, Bool.false_eq_true, false_iff]
    omega
  · -- no re-started call was stopped, in particular not the last one
    simp only [Option.isSome_some, true_iff]
    by_contra hn
    exact h (List.any_eq_true.mpr ⟨lasts.length - 1, List.mem_range.mpr (by omega), decide_eq_true (by omega)⟩)

end cvode

/-! ## 8. MOLES_TOO_LARGE: the reduction that is never counted -/

section hang
variable (f : TransFns Rat)

/-- **MOLES_TOO_LARGE never ends when the SAVEd moles do not shrink with TIME**: if a fresh evaluation of the rates returns
more than `moles_max` for some reactant — for every time, amount and sub-step size, as with `10 SAVE 2` — the attempt goes to
MOLES_TOO_LARGE instead of computing anything … -/
theorem fresh_attempt_reduces (P : Params Rat) (hone : P.one = 1) (F : Rat → List Rat → Rat → List Rat) (t0 : Rat)
    (tol : List Rat) (h hOld hSum : Rat) (ch : Chem Rat) (hl : ch.lBad = false) (hm : 0 < ch.molesMax) (hr : 0 < ch.mr)
    (hF : letI := ratOps f; ∀ t m h', ∃ x ∈ F t m h', ch.molesMax < absv P.zero x) :
    letI := ratOps f
    ∃ c', pass P F t0 tol h hOld hSum ch = .reduce c' ∧ 1 < c'.mr := by
  unfold pass
  exact k1Stage_reduces hone hl hm (hF _ _ _) _

/-- … and the reduction it triggers shrinks the sub-step without advancing time and without counting a bad step, so neither the
`while (h_sum < kin_time)` test nor `-bad_step_max` can ever stop the loop -/
theorem reduction_not_counted (P : Params Rat) (ct : Ctrl Rat) (ch : Chem Rat) :
    letI := ratOps f
    (applyReduction P ct ch).1.stepBad = ct.stepBad ∧ (applyReduction P ct ch).1.hSum = ct.hSum ∧
    (applyReduction P ct ch).1.stepOk = ct.stepOk := by
  unfold applyReduction
  split_ifs <;> exact ⟨rfl, rfl, rfl⟩

end hang

/-- the hang listed for C08 (`10 SAVE 2`: the SAVEd moles do not depend on TIME), on the model: whatever the fuel, the loop is
still running, no step was accepted, no bad step was counted and the sub-step has shrunk geometrically -/
example :
    (letI := ratOps exFns
     let r := rkKinetics (genParams 0) (fun _ _ => 1) (fun _ m _ => m.map (fun _ => 2)) 0 1 1 6 [1/100000000] [1] 500 40
     (r.1 == Status.fuel && r.2.1.stepOk == 0 && r.2.1.stepBad == 0 && decide (r.2.1.h < 1/1000000000000))) = true := by
  decide +kernel

/-! ## 9. `-runge_kutta 1`: the Euler exit compares the rate at the start with the rate at the end time -/

/-- `-runge_kutta 1` and a rate `a·TOTAL_TIME` (zero at the start of the step): since /repo 21ebeca0 the rate at the end of the
Euler step is evaluated at the end time, differs from the rate at the start, and the step is redone with the full scheme: both
`-runge_kutta 1` and `-runge_kutta 6` transfer the exact `a T²/2` (before the fix `-runge_kutta 1` left through the early exit
with nothing reacted) -/
example :
    (letI := ratOps exFns
     let F : Rat → List Rat → Rat → List Rat := fun t _ h => [t * h / 10000000]
     let r1 := rkKinetics (genParams 0) (fun _ _ => 1) F 0 100 1 1 [1/100000000] [1/100] 500 5
     let r6 := rkKinetics (genParams 0) (fun _ _ => 1) F 0 100 1 6 [1/100000000] [1/100] 500 5
     (r1.1 == Status.done && r1.2.2.m == [19/2000] && r1.2.2.rk == 3 && r6.1 == Status.done && r6.2.2.m == [19/2000])) = true := by
  decide +kernel

end PhreeqcVerif.C12
