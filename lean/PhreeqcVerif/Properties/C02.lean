import PhreeqcVerif.Lemmas.Formula
import PhreeqcVerif.Lemmas.Inventory
/-! # C02 — closed-system conservation of elements and charge in reaction steps

Theorems about the executable models `Model/Formula` (the parser `get_elts_in_species`), `Model/NameDouble` and
`Model/Inventory` (what `step()` assembles, what `saver()` writes back, the step amounts of `add_reaction`).  The tie to
the C++ is the correspondence check of `tools/props/c02.py` (parser on every database formula, step amounts, and
inventories of real runs computed by these very functions through `pmodel inventory`). -/
namespace PhreeqcVerif.C02
open PhreeqcVerif.Formula PhreeqcVerif.NameDouble PhreeqcVerif.Inventory

/-! ## the formula parser -/

/-- Parsing the printed text of any well-formed formula body (nested parentheses with multipliers, decimal numbers,
`[iso]` names), optionally followed by a charge, yields its denotation; `coef` multiplies every entry. -/
theorem parseFormula_print_roundtrip (q : Seq) (hq : q.WF) (coef : Rat) :
    parseChars coef q.print = some (q.denote coef) :=
  (Parses.body q hq).parseChars

/-- the charge is left unread: the element list of `body ++ "+…"` is that of the body -/
theorem parseFormula_charge (q : Seq) (hq : q.WF) (coef : Rat) (z : List Char) :
    parseChars coef (q.print ++ '+' :: z) = some (q.denote coef) ∧
    parseChars coef (q.print ++ '-' :: z) = some (q.denote coef) := by
  have hp := (Parses.charge (c := '+') (z := z) rfl).seq (coef := coef) q hq ⟨by decide, by decide⟩
  have hm := (Parses.charge (c := '-') (z := z) rfl).seq (coef := coef) q hq ⟨by decide, by decide⟩
  simpa using And.intro hp.parseChars hm.parseChars

/-- concatenation of formulas = concatenation of element lists -/
theorem parseFormula_append (a b : Seq) (ha : a.WF) (hb : b.WF) (coef : Rat) :
    parseChars coef (a.print ++ b.print) = some (a.denote coef ++ b.denote coef) := by
  have h := parseFormula_print_roundtrip (a.append b) (wf_append a b ha hb) coef
  rwa [print_append, denote_append] at h

/-- a parenthesised group followed by a number: every entry of the group is multiplied by the number -/
theorem parseFormula_paren (a : Seq) (ha : a.WF) (k : List Char) (hk : Seq.validNum k) (coef : Rat) :
    parseChars coef ('(' :: (a.print ++ (')' :: k))) = some (scale (numOr1 k) (a.denote coef)) := by
  have h := parseFormula_print_roundtrip (Seq.paren a k Seq.nil) ⟨ha, hk, trivial⟩ coef
  simpa [Seq.print, Seq.denote] using h

/-- `:n` hydrate tail: everything after the colon is multiplied by `n` -/
theorem parseFormula_hydrate (a b : Seq) (ha : a.WF) (hb : b.WF) (k : List Char) (hk : Seq.validNum k) (coef : Rat) :
    parseChars coef (a.print ++ ':' :: (k ++ b.print)) = some (a.denote coef ++ scale (numOr1 k) (b.denote coef)) := by
  have hs : SafeStart b.print := by simpa using safe_print b hb (rest := []) trivial
  have h := (Parses.colon hk hs (Parses.body b hb) (Nat.zero_le _) Parses.nil).seq (coef := coef) a ha ⟨by decide, by decide⟩
  simpa using h.parseChars

/-- the element list is linear in the coefficient passed to the parser (`reaction_calc`, `calc_final_kinetic_reaction`) -/
theorem denote_coef (q : Seq) (coef : Rat) : q.denote coef = scale coef (q.denote 1) := by
  induction q with
  | nil => rfl
  | elt n k r ih => rw [Seq.denote, Seq.denote, ih, Rat.mul_one]; rfl
  | paren b k r ihb ihr => rw [Seq.denote, Seq.denote, ihb, ihr, scale_append, scale_comm]

/-! ## inventory -/

/-- the inventory is the sum of the parts: solution(s), exchanger, surface (+ diffuse layer), gas, pure phases, solid
solutions, kinetic reactants -/
theorem inventory_parts (c : Cell) (e : String) :
    get (inventory c) e =
      get (c.sols.flatMap fun fs => solContribs fs.1 fs.2) e + get (optContribs exchContribs c.exch) e +
      get (optContribs surfContribs c.surf) e + get (c.gas.flatMap amountContribs) e +
      get (c.pp.flatMap amountContribs) e + get (c.ss.flatMap amountContribs) e + get (c.kin.flatMap kinCompContribs) e := by
  simp only [get_inventory, contribs, get_append]

/-- two cells put together (at most one of them with an exchanger / a surface) -/
def join (c1 c2 : Cell) : Cell :=
  { sols := c1.sols ++ c2.sols, exch := c1.exch.orElse fun _ => c2.exch, surf := c1.surf.orElse fun _ => c2.surf,
    gas := c1.gas ++ c2.gas, pp := c1.pp ++ c2.pp, ss := c1.ss ++ c2.ss, kin := c1.kin ++ c2.kin }

/-- inventory is additive over parts -/
theorem inventory_add (c1 c2 : Cell) (hx : c1.exch = none ∨ c2.exch = none) (hs : c1.surf = none ∨ c2.surf = none)
    (e : String) : get (inventory (join c1 c2)) e = get (inventory c1) e + get (inventory c2) e := by
  simp only [inventory_parts, join, get_flatMap_append, get_optContribs_orElse _ _ _ hx, get_optContribs_orElse _ _ _ hs]
  grind

/-- inventory is linear in the amounts: the contribution of a phase / gas component / solid-solution component is
its formula times its moles -/
theorem amount_linear (f : Inventory.Formula) (m1 m2 x : Rat) (e : String) :
    get (amountContribs { formula := f, moles := m1 + x * m2 }) e =
      get (amountContribs { formula := f, moles := m1 }) e + x * get (amountContribs { formula := f, moles := m2 }) e := by
  simp only [get_amountContribs]
  grind

/-- a solution taken `ext` times contributes `ext` times its content -/
theorem solution_linear (ext : Rat) (s : Solution) (e : String) :
    get (solContribs ext s) e = ext * get (solContribs 1 s) e := by
  rw [solContribs_eq, get_multiply, Rat.mul_comm]

/-- mixing: the totals of a MIX are Σ fⱼ · totalsⱼ -/
theorem mix_linear (l : List (Rat × Solution)) (e : String) :
    get (l.flatMap fun fs => solContribs fs.1 fs.2) e = (l.map fun fs => fs.1 * get (solContribs 1 fs.2) e).sum := by
  induction l with
  | nil => rfl
  | cons p t ih => simp only [get_flatMap_cons, List.map_cons, List.sum_cons, ih, solution_linear p.1 p.2 e]

/-- … and do not depend on the order of the MIX lines -/
theorem mix_perm (l1 l2 : List (Rat × Solution)) (h : l1.Perm l2) (c : Cell) (e : String) :
    get (inventory { c with sols := l1 }) e = get (inventory { c with sols := l2 }) e := by
  simp only [inventory_parts]
  rw [get_flatMap_perm _ h e]

/-! ## step amounts -/

def sumSteps (inc : Bool) (r : Reaction) : Nat → Rat
  | 0 => 0
  | n + 1 => sumSteps inc r n + stepAmount inc r (n + 1)

/-- equal increments: the incremental amounts of steps 1..n add up to the cumulative amount of step n -/
theorem stepAmount_incremental_sum (r : Reaction) (heq : r.equal = true) (hs : r.steps.length ≠ 0) (hc : r.count ≠ 0)
    (n : Nat) (hn : n ≤ r.count) : sumSteps true r n = stepAmount false r n := by
  rw [(stepAmount_equal r heq hs hn).2]
  induction n with
  | zero => simp only [sumSteps]; grind
  | succ k ih =>
    rw [sumSteps, ih (Nat.le_of_succ_le hn), (stepAmount_equal r heq hs hn).1, Rat.natCast_add]
    grind

/-- list of amounts: incremental mode adds entry k at step k, so after n steps the sum of the first n entries has
been added; cumulative mode with the list of partial sums adds the same at step n (documented semantics) -/
theorem stepAmount_list_prefix (r : Reaction) (heq : r.equal = false) (n : Nat) (hn : n ≤ r.steps.length) :
    sumSteps true r n = ((r.steps.take n).sum) * r.unitFactor := by
  induction n with
  | zero => exact (Rat.zero_mul _).symm
  | succ k ih =>
    rw [sumSteps, ih (Nat.le_of_succ_le hn), stepAmount_list true r heq (Nat.succ_pos k) hn, sum_take_succ, Rat.add_mul]
    rfl

/-- cumulative amounts that give the same states as the increments `l` -/
def prefixSums (l : List Rat) : List Rat := (List.range l.length).map fun i => (l.take (i + 1)).sum

theorem stepAmount_list_cumulative (r : Reaction) (heq : r.equal = false) (n : Nat) (h1 : 1 ≤ n) (hn : n ≤ r.steps.length) :
    sumSteps true r n = stepAmount false { r with steps := prefixSums r.steps } n := by
  have hlen : (prefixSums r.steps).length = r.steps.length := by simp [prefixSums]
  have : n - 1 < r.steps.length := by omega
  rw [stepAmount_list_prefix r heq n hn, stepAmount_list false { r with steps := prefixSums r.steps } heq h1 (hlen ▸ hn)]
  simp [prefixSums, List.getD, this, Nat.sub_add_cancel h1]

/-! ## what `step()` hands to the solver -/

/-- totals handed to the solver + what stays in pure phases and solid solutions = inventory(solution or mix) +
Σ stoich·stepAmount·fraction + kinetic increment + inventory of every present reactant — for every element, H, O and
the charge -/
theorem assemble_total (c : Cell) (r : Option Reaction) (inc : Bool) (n : Nat) (fraction : Rat) (kinTotals : ND) (e : String) :
    (assemble c r inc n fraction kinTotals).totals.get e +
      get ((assemble c r inc n fraction kinTotals).pp.flatMap amountContribs) e +
      get ((assemble c r inc n fraction kinTotals).ss.flatMap amountContribs) e =
    get (inventory { c with kin := [] }) e + get (optContribs (fun r => reactionContribs inc r n fraction) r) e +
      get kinTotals e := by
  simp only [assemble, inventory_parts, List.flatMap_nil, get_nil]
  split
  · simp only [transferAll_get, Totals.get_addList, Totals.get_empty]
    grind
  · simp only [transferAll_get, Totals.get_addList, Totals.get_empty]
    grind

/-- `solution_check` leaves H, O and the charge alone, keeps every key, and moves each master total by at most
MIN_TOTAL (a total is either kept or was within ±MIN_TOTAL and becomes 0) -/
theorem solutionCheck_small (t : Totals) :
    (solutionCheck t).1.h = t.h ∧ (solutionCheck t).1.o = t.o ∧ (solutionCheck t).1.cb = t.cb ∧
    (solutionCheck t).1.masters.map (·.1) = t.masters.map (·.1) ∧
    ∀ i (h : i < t.masters.length),
      absR (((solutionCheck t).1.masters[i]'(by simp [solutionCheck]; exact h)).2 - (t.masters[i]).2) ≤ MIN_TOTAL := by
  refine ⟨rfl, rfl, rfl, ?_, ?_⟩
  · simp only [solutionCheck, List.map_map]
    apply List.map_congr_left
    intro p _
    simp only [Function.comp]
    split <;> rfl
  · intro i h
    simp only [solutionCheck, List.getElem_map]
    split
    · rwa [Rat.sub_eq_add_neg, Rat.zero_add, absR_neg]
    · rw [Rat.sub_self]
      decide +kernel

/-- `step()` reports MASS_BALANCE exactly when some master total is below −MIN_TOTAL -/
theorem solutionCheck_flag (t : Totals) :
    (solutionCheck t).2 = true ↔ ∃ p ∈ t.masters, p.2 < -MIN_TOTAL := by
  simp only [solutionCheck, List.any_eq_true, decide_eq_true_eq]

example : (solutionCheck { masters := [("Ca", 1/10^30), ("Cl", 2/1000), ("Na", -(1/10^26))] }).1.masters =
    [("Ca", 0), ("Cl", 2/1000), ("Na", 0)] ∧
    (solutionCheck { masters := [("Ca", -(1/1000))] }).2 = true := by decide +kernel

/-! ## what `saver()` writes back -/

/-- Exact bookkeeping identity: inventory(after) − inventory(before) − reaction = residual of the balance row of the
element, provided the kinetic reactants lost exactly what the integrator handed to the solution (`hkin`). -/
theorem partition_residual (c : Cell) (r : Option Reaction) (inc : Bool) (n : Nat) (fraction : Rat) (kinTotals : ND)
    (o : SolverOut) (kinAfter : List KinComp) (e : String)
    (hkin : get (kinAfter.flatMap kinCompContribs) e + get kinTotals e = get (c.kin.flatMap kinCompContribs) e) :
    get (inventory (partition c (assemble c r inc n fraction kinTotals) o kinAfter)) e -
      (get (inventory c) e + get (optContribs (fun r => reactionContribs inc r n fraction) r) e) =
    residual c (assemble c r inc n fraction kinTotals) o e := by
  have hA := assemble_total c r inc n fraction kinTotals e
  generalize assemble c r inc n fraction kinTotals = a at hA ⊢
  have h1 : get (contribs (partition c a o kinAfter)) e =
      get (contribs (partition c a o [])) e + get (kinAfter.flatMap kinCompContribs) e := get_contribs_kin _ e
  have h2 := get_contribs_kin c e
  simp only [get_inventory, residual] at hA ⊢
  -- `h1` and `h2` split the kinetic reactants off the two inventories, `hkin` cancels them against `kinTotals`, and `hA`
  -- turns what is left of before + reaction into the assembled totals
  grind

/-- **Conservation.** For any solver output that passes the gate on the MB / MH / MH2O / CB rows (residual of every
element within its tolerance), the inventory written back by `saver()` equals the inventory before the step plus what
the REACTION adds, within that tolerance — every element, H, O and charge, summed over solution, exchanger, surface +
diffuse layer, gas phase, pure phases, solid solutions and kinetic reactants. -/
theorem partition_conserves (c : Cell) (r : Option Reaction) (inc : Bool) (n : Nat) (fraction : Rat) (kinTotals : ND)
    (o : SolverOut) (kinAfter : List KinComp) (tol : String → Rat)
    (hkin : ∀ e, get (kinAfter.flatMap kinCompContribs) e + get kinTotals e = get (c.kin.flatMap kinCompContribs) e)
    (hgate : Gate c (assemble c r inc n fraction kinTotals) o tol) (e : String) :
    absR (get (inventory (partition c (assemble c r inc n fraction kinTotals) o kinAfter)) e -
      (get (inventory c) e + get (optContribs (fun r => reactionContribs inc r n fraction) r) e)) ≤ tol e := by
  rw [partition_residual c r inc n fraction kinTotals o kinAfter e (hkin e)]
  exact hgate e

/-- what the engine's own `cxxSystem::totalize` reports for an element (other than H, O, charge) of a cell with
plain pure phases and no diffuse layer / kinetic reactants is the inventory, when solution totals carry plain element
names -/
theorem sysTotalize_pp_gas (c : Cell) (e : String) (hsol : c.sols = []) (hx : c.exch = none) (hs : c.surf = none)
    (hk : c.kin = []) (halt : ∀ a ∈ c.pp, a.alt = false) :
    get (sysTotalize c) e = get (inventory c) e := by
  have hf : c.pp.filter (fun a => !a.alt) = c.pp := by
    apply List.filter_eq_self.mpr
    intro a ha; simp [halt a ha]
  simp only [sysTotalize, get_inventory, contribs, get_ofList, hsol, hx, hs, hk, hf, optContribs, List.flatMap_nil,
    get_append, get_nil]
  grind

/-! ## non-vacuity -/


def s (x : String) : List Char := x.toList

/-- Ca(OH)2 -/
def caoh2 : Seq := Seq.elt (s "Ca") [] (Seq.paren (Seq.elt (s "O") [] (Seq.elt (s "H") [] Seq.nil)) (s "2") Seq.nil)

example : String.ofList caoh2.print = "Ca(OH)2" := by decide +kernel
example : parseFormula "Ca(OH)2" = some [("Ca", 1), ("O", 2), ("H", 2)] := by decide +kernel
example : parseFormula "CaSO4:2H2O" = some [("Ca", 1), ("S", 1), ("O", 4), ("H", 4), ("O", 2)] := by decide +kernel
example : parseFormula "[13C]O2Ca0.5" = some [("[13C]", 1), ("O", 2), ("Ca", 1/2)] := by decide +kernel
example : parseFormula "Fe+2" = some [("Fe", 1)] := by decide +kernel
/-- the quirk of the colon inside parentheses: the tail call eats the right parenthesis, the multiplier is an error -/
example : parseFormula "(A:2B)3" = none := by decide +kernel
example : parseFormula "Ca(OH" = none := by decide +kernel
example : ofList [("O", 4), ("H", 4), ("O", 2)] = [("H", 4), ("O", 6)] := by decide +kernel

def rEq : Reaction := { reactants := [([("Na", 1), ("Cl", 1)], 1)], steps := [3/1000], equal := true, count := 3 }
def rList : Reaction := { reactants := [([("Na", 1), ("Cl", 1)], 2)], steps := [1, 2, 4], equal := false, count := 0,
                          unitFactor := 1/1000 }
example : stepAmount true rEq 2 = 1/1000 ∧ stepAmount false rEq 2 = 2/1000 ∧ stepAmount false rEq 5 = 3/1000 ∧
    stepAmount true rEq 5 = 0 := by decide +kernel
example : stepAmount true rList 2 = 2/1000 ∧ stepAmount false rList 5 = 4/1000 ∧ sumSteps true rList 3 = 7/1000 := by
  decide +kernel
example : reactionContribs false rList 3 1 = [("Na", 8/1000), ("Cl", 8/1000)] := by decide +kernel

def water : Solution := { totalH := 111, totalO := 111/2, cb := 1/1000000, totals := [("C(4)", 1/1000), ("Ca", 2/1000), ("H(0)", 1/10^20)] }
def cell1 : Cell :=
  { sols := [(1, water)], gas := [{ formula := [("C", 1), ("O", 2)], moles := 1/10 }],
    pp := [{ formula := [("Ca", 1), ("C", 1), ("O", 3)], moles := 1 }, { formula := [("Sr", 1), ("S", 1), ("O", 4)], moles := 1/2 }],
    kin := [{ m := 2, parts := [([("Si", 1), ("O", 2)], 1)] }] }

example : get (inventory cell1) "O" = 111/2 + 2/10 + 3 + 2 + 4 ∧ get (inventory cell1) "C" = 1/1000 + 1/10 + 1 ∧
    get (inventory cell1) "Charge" = 1/1000000 ∧ get (inventory cell1) "H" = 111 := by decide +kernel

/-- Sr is absent from the solution: `add_pp_assemblage` moves 1e-10 mol of the Sr phase into the totals -/
example : ((assemble cell1 (some rList) false 1 1 []).totals.get "Sr" = 1/10^10) ∧
    ((assemble cell1 (some rList) false 1 1 []).totals.get "Na" = 2/1000) := by decide +kernel

/-- a solver output that puts everything back where it was passes the gate with tolerance 0 and conserves exactly -/
example : residual { sols := [(1, water)] } (assemble { sols := [(1, water)] } none false 1 1 [])
    { sol := { water with totals := [("C", 1/1000), ("Ca", 2/1000)] }, exch := [], surfComps := [], surfCharges := [], gas := [], pp := [], ss := [] }
    "Ca" = 0 := by decide +kernel


end PhreeqcVerif.C02
