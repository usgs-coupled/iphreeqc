import PhreeqcVerif.Lemmas.Transport
/-! # C11 — transport only moves dissolved mass: conservation, exact shifts, bounded mixing

Theorems about the executable model `Model/Transport.lean` of `init_mix` (non-multicomponent branch), the sub-mix of
`transport()` + `add_mix`, the advective copy loop and their iteration over shifts. Every statement is for **all**
column set-ups (any number of cells, lengths, dispersivities, diffusion coefficient, time step, flow direction, boundary
condition pair, `correct_disp`), all initial columns and any number of shifts and sub-mixes.

* `weights_convex`, `bounded_mixing`, `concentration_range` — full strength.
* `closed_inventory_constant` — the property's conservation clause (diffusion only, closed ends, equal lengths).
* `advective_shift_exact_forward/back`, `pure_advection_nmix_zero`, `pure_advection_step`, `advection_keyword_exact`.
* `flux_inventory_balance`, `flux_inventory_balance_back` — with flow and flux boundaries the inventory changes by
  inflow − outflow, for any dispersivities. (On the tree before /repo commit 02a99847 this was false of the code: a
  stale local `dav` in `init_mix`, DESIGN §6 item 7, lost 2/15 of a tracer in one step; `stale_dav_regression` keeps
  the witness.)
* `stagnant_exchange_conserves`, `closed_inventory_constant_stagnant`, `concentration_range_stagnant` — the same with a
  stagnant layer; `constant_boundary_mix_balance` — what a sub-mix exchanges with constant-concentration boundaries.

The tie to the C++ is in `tools/props/c11.py` (mixing factors read mid-run from `Dispersion_mix_map`, end-to-end runs). -/
namespace PhreeqcVerif.Transport

/-- **weights_convex** — for every physically meaningful column set-up (any number of cells, any lengths,
dispersivities — zero ones included —, diffusion coefficient, time step, flow direction, boundary
condition pair, `correct_disp`) every entry of `Dispersion_mix_map` computed by `init_mix` is a convex combination:
the three weights are non-negative, at most one, sum to one, and the self weight exceeds 1/3. -/
theorem weights_convex (s : Setup) (hs : s.Valid) :
    ∀ w ∈ (initMix s).weights, w.Convex ∧ 1 / 3 < w.s ∧ w.l ≤ 1 ∧ w.r ≤ 1 ∧ w.s ≤ 1 := by
  intro w hw
  by_cases h0 : (rawMix s).2 = 0
  · rw [initMix_weights_nil (by rw [initMix_nmix, h0, nmixOf_zero])] at hw
    cases hw
  · exact weightsWith_convex
      (rawMix_forall s hs.1 le_rfl (fun dav _ _ hc hn => neighbourMix_nonneg hs dav hc hn) fun _ hc => boundaryMix_nonneg hs hc)
      (rawMix_sum_le s) (nmixOf_gt s h0) w hw

theorem transportStep_rel (s : Setup) (hs : s.Valid) {R : Rat → Rat → Prop} (hR : Mixes R) {n w : Col Rat}
    (h : Col.Rel₂ R n w) : Col.Rel₂ R (transportStep s n) (transportStep s w) :=
  transportStepWith_rel hR (fun w hw => (weights_convex s hs w hw).1) _ _ _ h

/-- **bounded_mixing** (max/min principle) — with a single diffusion coefficient, for every column set-up, every
number of shifts and sub-mixes: if the initial column and the two boundary solutions lie in `[lo, hi]`, so does every
cell after every transport step. -/
theorem bounded_mixing (s : Setup) (hs : s.Valid) (shifts : Nat) {lo hi : Rat} {c : Col Rat} (hc : c.Within lo hi) :
    ∀ c' ∈ transportRun s shifts c, c'.Within lo hi :=
  -- a range is the relation `fun x _ => In lo hi x` between a column and itself (`Col.within_iff`), kept by convex mixing
  runWith_inv (fun _ h => Col.within_iff.2 (transportStep_rel s hs (In.mixes lo hi) (Col.within_iff.1 h))) shifts hc

/-- **concentration_range** — the range clause of the property for *concentrations* in cells of different water
content: `add_mix` mixes the amount of a solute and the mass of water with the same fractions, so if in every cell and
boundary solution of the initial column `lo·water ≤ amount ≤ hi·water` (concentration in `[lo, hi]`), the same holds in
every cell after every transport step — for every set-up, any number of shifts and sub-mixes. (That the water mass after
speciation equals the mixed water mass up to ~1e-9 is observed on the real outputs, not proved.) -/
theorem concentration_range (s : Setup) (hs : s.Valid) (shifts : Nat) {lo hi : Rat} {n w : Col Rat}
    (h : Col.RelW lo hi n w) :
    List.Forall₂ (Col.RelW lo hi) (transportRun s shifts n) (transportRun s shifts w) :=
  runWith_rel (fun _ _ h => transportStep_rel s hs (Rel.mixes lo hi) h) shifts n w h

/-- **closed_inventory_constant** — diffusion only, no constant-concentration boundary (closed; a flux boundary
without flow is coded identically), equal cell lengths; any number of cells, any diffusion coefficient and time step
(hence any number of sub-mixes), any number of shifts: the column inventory after every shift equals the initial one. -/
theorem closed_inventory_constant (s : Setup) (hf : s.flow = Flow.none) (h1 : s.bconFirst ≠ 1) (h2 : s.bconLast ≠ 1)
    {L : Rat} (hL : ∀ c ∈ s.cells, c.len = L) (shifts : Nat) {c : Col Rat} (hn : c.cells.length = s.n) :
    ∀ c' ∈ transportRun s shifts c, c'.sum = c.sum := by
  intro c' hc'
  refine (runWith_inv (P := fun c' => c'.sum = c.sum ∧ c'.cells.length = s.n) ?_ shifts ⟨rfl, hn⟩ c' hc').1
  intro d hd
  have := transportStep_sum s h1 h2 hL hd.2
  rw [hf] at this
  exact ⟨this.1.trans hd.1, this.2⟩

/-! ### advective shift -/

/-- **advective_shift_exact** (forward) — after the copy loop cell `i+1` (list index `i`) holds the previous content
of cell `i` (index `i` of `first :: cells`): cell 1 receives the inflow solution 0, the boundary solutions are unchanged. -/
theorem advective_shift_exact_forward (c : Col Rat) :
    (shiftF c).cells.length = c.cells.length ∧ (shiftF c).first = c.first ∧ (shiftF c).last = c.last ∧
    ∀ i, i < c.cells.length → (shiftF c).cells[i]? = (c.first :: c.cells)[i]? := by
  refine ⟨shift_cells_length .forward c, rfl, rfl, fun i hi => ?_⟩
  rw [shiftF, List.getElem?_dropLast, if_pos (by simpa using hi)]

/-- **advective_shift_exact** (backward) — cell `i` receives the previous content of cell `i+1`, cell `n` the
solution `n+1`. -/
theorem advective_shift_exact_back (c : Col Rat) :
    (shiftB c).cells.length = c.cells.length ∧ (shiftB c).first = c.first ∧ (shiftB c).last = c.last ∧
    ∀ i, i < c.cells.length → (shiftB c).cells[i]? = (c.cells ++ [c.last])[i + 1]? := by
  refine ⟨shift_cells_length .back c, rfl, rfl, fun i hi => ?_⟩
  obtain ⟨f, cs, l⟩ := c
  cases cs with
  | nil => exact absurd hi (Nat.not_lt_zero i)
  | cons x t => rfl

/-- pure advection: all dispersivities zero and no diffusion (`D = 0` or `Δt = 0`) ⇒ `init_mix` returns 0 sub-mixes -/
theorem pure_advection_nmix_zero (s : Setup) (hd : ∀ c ∈ s.cells, c.disp = 0) (h0 : s.diffc = 0 ∨ s.timest = 0) :
    (initMix s).nmix = 0 := by
  have hD : diffcHere s = 0 := by rcases h0 with h | h <;> simp [diffcHere, h]
  rw [initMix_nmix, rawMix_zero s hd hD, nmixOf_zero]

/-- **pure_advection_step** — with pure advection a transport step *is* the advective copy, for every column -/
theorem pure_advection_step (s : Setup) (hd : ∀ c ∈ s.cells, c.disp = 0) (h0 : s.diffc = 0 ∨ s.timest = 0) (c : Col Rat) :
    transportStep s c = shift s.flow c := by
  have hk := pure_advection_nmix_zero s hd h0
  simp [transportStep, transportStepWith, hk, preMixes, iter]

/-! ### flow with flux boundaries: inventory balance -/

/-- **flux_inventory_balance** (forward flow) — flux boundaries at both ends, equal cell lengths; any dispersivities
(zero ones included), diffusion coefficient, time step, number of sub-mixes, any column: after a transport step
`inventory + (content of the last cell before the step) = old inventory + inflow solution` — dissolved mass is moved,
never created or lost. (Before /repo commit 02a99847 this needed the hypothesis "no zero dispersivity": the stale local
`dav` of `init_mix` made `m1[i] ≠ m[i+1]`; see `stale_dav_regression`.) -/
theorem flux_inventory_balance (s : Setup) (hf : s.flow = Flow.forward) (h1 : s.bconFirst = 3) (h2 : s.bconLast = 3)
    {L : Rat} (hL : ∀ c ∈ s.cells, c.len = L) {c : Col Rat} (hn : c.cells.length = s.n) :
    (transportStep s c).sum + (c.first :: c.cells).getLast (List.cons_ne_nil _ _) = c.sum + c.first := by
  rw [(transportStep_sum s (by omega) (by omega) hL hn).1, hf]
  exact shiftF_sum c

/-- **flux_inventory_balance** (backward flow): `inventory + (content of cell 1 before the step) = old inventory +
solution n+1` -/
theorem flux_inventory_balance_back (s : Setup) (hf : s.flow = Flow.back) (h1 : s.bconFirst = 3) (h2 : s.bconLast = 3)
    {L : Rat} (hL : ∀ c ∈ s.cells, c.len = L) {c : Col Rat} (hn : c.cells.length = s.n) (hpos : c.cells ≠ []) :
    (transportStep s c).sum + c.cells.head hpos = c.sum + c.last := by
  rw [(transportStep_sum s (by omega) (by omega) hL hn).1, hf]
  exact shiftB_sum c hpos

/-- regression input of the finding "stale `dav`" (three cells of length 1, dispersivities 0.1, 0.1, 0): with the
reset of `dav` the factors are symmetric (`m1[2] = m[3] = 1/5`; the unrepaired code gave `m[3] = 1/15`) … -/
theorem stale_dav_regression :
    (rawMix { cells := [⟨1, 1/10⟩, ⟨1, 1/10⟩, ⟨1, 0⟩], flow := .forward, bconFirst := 3, bconLast := 3,
              correctDisp := false, diffc := 0, timest := 0 }).1 = [(0, 1/10), (1/10, 1/5), (1/5, 0)] := by
  decide +kernel

/-- … and the tracer placed in cell 1 is still all there after one step (the unrepaired code kept 13/15 of it). -/
theorem stale_dav_regression_inventory :
    (transportStep { cells := [⟨1, 1/10⟩, ⟨1, 1/10⟩, ⟨1, 0⟩], flow := .forward, bconFirst := 3, bconLast := 3,
                     correctDisp := false, diffc := 0, timest := 0 } { first := 0, cells := [1, 0, 0], last := 0 }).sum = 1 := by
  decide +kernel

/-- the ADVECTION keyword: every step is the exact copy of the upstream neighbour -/
theorem advection_keyword_exact (c : Col Rat) (k : Nat) :
    advectionRun (k + 1) c = shiftF c :: advectionRun k (shiftF c) := rfl

/-! ### non-vacuity: concrete, non-trivial instances -/

/-- a 3-cell column, unequal lengths, mixed dispersivities, forward flow, constant/flux boundaries -/
def exSetup : Setup :=
  { cells := [⟨1, 1/10⟩, ⟨1/2, 0⟩, ⟨2, 3/10⟩], flow := .forward, bconFirst := 1, bconLast := 3,
    correctDisp := true, diffc := 1/1000, timest := 100 }

example : exSetup.Valid := by
  unfold Setup.Valid Cell.Valid; decide +kernel

example : (initMix exSetup).nmix = 2 := by decide +kernel
example : (initMix exSetup).weights.length = 3 := by decide +kernel
-- the weights are not trivial (all three entries of the middle cell are strictly positive)
example : ((initMix exSetup).weights.map fun w => decide (0 < w.l ∧ 0 < w.s ∧ 0 < w.r)) = [true, true, false] := by decide +kernel

/-- closed, equal lengths, diffusion only: 4 cells, `nmix = 4`, tracer 1 in the first cell -/
def exClosed : Setup :=
  { cells := [⟨1/2, 0⟩, ⟨1/2, 0⟩, ⟨1/2, 0⟩, ⟨1/2, 0⟩], flow := .none, bconFirst := 2, bconLast := 2,
    correctDisp := false, diffc := 1/100, timest := 25 }

example : (initMix exClosed).nmix = 4 := by decide +kernel
example : (transportRun exClosed 2 { first := 5, cells := [1, 0, 0, 0], last := 7 }).map Col.sum = [1, 1] := by decide +kernel
-- … and the column really changes
example : ((transportRun exClosed 1 { first := 5, cells := [1, 0, 0, 0], last := 7 }).map Col.cells) ≠ [[1, 0, 0, 0]] := by
  decide +kernel
-- unequal lengths are *not* conservative in this scheme (the engine warns "Unequal cell-lengths may give mass-balance error")
example : (transportRun { exClosed with cells := [⟨1/2, 0⟩, ⟨1, 0⟩, ⟨1/2, 0⟩, ⟨1/2, 0⟩] } 1
    { first := 5, cells := [1, 0, 0, 0], last := 7 }).map Col.sum ≠ [1] := by decide +kernel

-- concentration range: amounts 1,0,4 mol in 1, 2, 2 kg water (concentrations 1, 0, 2 ∈ [0,2]); boundaries 0 and 2
example : Col.RelW 0 2 { first := 0, cells := [1, 0, 4], last := 4 } { first := 1, cells := [1, 2, 2], last := 2 } := by
  unfold Col.RelW Rel; decide +kernel

example : (shiftF { first := 9, cells := [1, 2, 3], last := 7 } : Col Rat).cells = [9, 1, 2] := by decide +kernel
example : (shiftB { first := 9, cells := [1, 2, 3], last := 7 } : Col Rat).cells = [2, 3, 7] := by decide +kernel

/-! ### stagnant layer (`-stagnant 1 exch_f th_m th_im`) -/

/-- **stagnant_exchange_conserves** — the mobile/immobile exchange fractions that `transport()` stores in `Rxn_mix_map`
move mass between the two cells without creating or losing any, for every exchange factor, time step (every value of
the exponential), whenever the two water masses are in the ratio of the porosities. -/
theorem stagnant_exchange_conserves (f thM thIm wm wim : Rat) (hM : thM ≠ 0) (hwm : wm ≠ 0) (hwi : wim ≠ 0)
    (hr : wim * thM = wm * thIm) (m i : Rat) :
    let w := stagWeights f thM thIm wm wim
    (w.mSelf * m + w.mFromIm * i) + (w.imFromM * m + w.imSelf * i) = m + i := by
  intro w
  exact (stagWeights_conserving f thM thIm wm wim hM hwm hwi hr).pair_sum m i

/-- if the water masses are *not* in the ratio of the porosities the exchange is not conservative (the reason why
the generator sets the immobile water to `th_im/th_m` kg): th_m = 0.3, th_im = 0.1, both waters 1 kg, f = 1/2 -/
example : let w := stagWeights (1/2 : Rat) (3/10) (1/10) 1 1
    (w.mSelf * 1 + w.mFromIm * 0) + (w.imFromM * 1 + w.imSelf * 0) ≠ 1 + 0 := by decide +kernel

/-- **closed_inventory_constant_stagnant** — diffusion only, no constant boundary, equal lengths, a stagnant layer whose
exchange fractions are conserving (`stagWeights_conserving`): the inventory of mobile + immobile cells is the same
after every shift, for any number of sub-mixes and shifts. -/
theorem closed_inventory_constant_stagnant (s : Setup) (hf : s.flow = Flow.none) (h1 : s.bconFirst ≠ 1) (h2 : s.bconLast ≠ 1)
    {L : Rat} (hL : ∀ c ∈ s.cells, c.len = L) {sw : List (Option (StagW Rat))} (hsw : ∀ w, some w ∈ sw → w.Conserving)
    (shifts : Nat) {c : SCol Rat} (hn : c.mob.cells.length = s.n) :
    ∀ c' ∈ transportStagRun s sw shifts c, c'.sum = c.sum := by
  obtain ⟨hs, hl⟩ := initMix_closed s h1 h2 hL
  intro c' hc'
  refine (runWithS_inv (P := fun c' => c'.sum = c.sum ∧ c'.mob.cells.length = s.n) ?_ shifts ⟨rfl, hn⟩ c' hc').1
  intro d hd
  -- without flow the copy and the extra exchange drop out: `pre` sub-mixes, then `nmix - pre` more
  simp only [transportStagStepWith, hf, shift, ne_eq, not_true_eq_false, and_false, if_false]
  exact iterS_mixStagStep_keeps hs hl hsw _ (iterS_mixStagStep_keeps hs hl hsw _ hd)

/-- **concentration_range_stagnant** — the range clause with a stagnant layer: non-negative exchange fractions
(`stagWeights_nonneg`: `0 ≤ f ≤ 1`, positive porosities and water masses) keep every mobile and immobile concentration
within the range of the initial mobile + immobile column and the boundary solutions. -/
theorem concentration_range_stagnant (s : Setup) (hs : s.Valid) {sw : List (Option (StagW Rat))}
    (hsw : ∀ w, some w ∈ sw → w.Nonneg) (shifts : Nat) {lo hi : Rat} {n w : SCol Rat} (h : SCol.RelW lo hi n w) :
    List.Forall₂ (SCol.RelW lo hi) (transportStagRun s sw shifts n) (transportStagRun s sw shifts w) :=
  runWithS_rel (fun _ _ hh => transportStagStepWith_rel (fun w hw => (weights_convex s hs w hw).1) hsw _ _ _ hh) shifts n w h

-- non-vacuity: th_m = 0.2, th_im = 0.1, water 1 kg / 0.5 kg, f = 1/3: conserving, non-negative, and the pair really exchanges
example : (stagWeights (1/3 : Rat) (1/5) (1/10) 1 (1/2)).Conserving := by
  unfold StagW.Conserving; decide +kernel
example : (stagWeights (1/3 : Rat) (1/5) (1/10) 1 (1/2)).Nonneg := by
  unfold StagW.Nonneg; decide +kernel
example : (transportStagRun exClosed [some (stagWeights (1/3 : Rat) (1/5) (1/10) 1 (1/2)), none, none, none] 2
    { mob := { first := 5, cells := [1, 0, 0, 0], last := 7 }, imm := [3, 0, 0, 0] }).map SCol.sum = [4, 4] := by decide +kernel
example : ((transportStagRun exClosed [some (stagWeights (1/3 : Rat) (1/5) (1/10) 1 (1/2)), none, none, none] 1
    { mob := { first := 5, cells := [1, 0, 0, 0], last := 7 }, imm := [3, 0, 0, 0] }).map SCol.imm) ≠ [[3, 0, 0, 0]] := by decide +kernel

/-! ### constant-concentration boundaries: the exchange with the boundary solutions is accounted for -/

/-- **constant_boundary_mix_balance** — diffusion only, equal cell lengths, *any* boundary-condition pair: one sub-mix
changes the column inventory exactly by the exchange with the two boundary solutions,
`m[1]/nmix · (c₀ − c₁) + m1[n]/nmix · (c_{n+1} − c_n)`, where `m[1]`, `m1[n]` (`aEnd`, `bEnd`) are the boundary factors
of `init_mix` (zero unless the boundary is constant). With closed/flux ends this is `closed_inventory_constant`. -/
theorem constant_boundary_mix_balance (s : Setup) (hf : s.flow = Flow.none) {L : Rat} (hL : ∀ c ∈ s.cells, c.len = L)
    (hk : (initMix s).nmix ≠ 0) {c : Col Rat} (x : Rat) (xs : List Rat) (hc : c.cells = x :: xs) (hn : c.cells.length = s.n) :
    (mixStep (initMix s).weights c).sum =
      c.sum + aEnd s / ((initMix s).nmix : Rat) * (c.first - x)
            + bEnd s / ((initMix s).nmix : Rat) * (c.last - (x :: xs).getLast (List.cons_ne_nil _ _)) := by
  rw [mixStep_sum_ends (initMix_sym s hL) (hn.trans (weights_length s hk).symm), hc, List.headD_cons,
    List.getLastD_cons, List.getLast_eq_getLastD]

-- non-vacuity: constant boundary at the first end (solution 0 = 5), closed at the other: the inventory grows by exactly
-- the boundary exchange
example : aEnd { exClosed with bconFirst := 1 } = 2 ∧ bEnd { exClosed with bconFirst := 1 } = 0 := by decide +kernel
example : (initMix { exClosed with bconFirst := 1 }).nmix = 5 := by decide +kernel
example : (mixStep (initMix { exClosed with bconFirst := 1 }).weights { first := 5, cells := [1, 0, 0, 0], last := 7 }).sum
    = 1 + 2 / 5 * (5 - 1) := by decide +kernel

end PhreeqcVerif.Transport
