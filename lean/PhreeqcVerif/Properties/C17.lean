import PhreeqcVerif.Lemmas.BasicParse
import PhreeqcVerif.Lemmas.BasicExec
import PhreeqcVerif.Lemmas.BasicFor
/-! C17 — BASIC programs compute standard arithmetic, string and control-flow semantics.

Theorems about the reference evaluator `Model/Basic*.lean` (the executable model of `PBasic.cpp` that
`pmodel basic` runs against the real engine), for ALL expressions / programs / states, and facts over the token
tables regenerated from the source on every run (`Gen/BasicTokens.lean`). -/
namespace PhreeqcVerif.C17
open PhreeqcVerif.Basic PhreeqcVerif.Gen

/-- the documented keywords denote the documented tokens in the table extracted from `PBasic.cpp` -/
theorem keywords_documented :
    (["and", "or", "xor", "not", "mod", "if", "then", "else", "for", "to", "step", "next", "while", "wend", "goto",
      "gosub", "return", "on", "data", "read", "restore", "dim", "put", "get", "punch", "save", "print", "end", "rem",
      "let", "stop", "erase", "put$", "get$"].map lookupKw)
    = (["tokand", "tokor", "tokxor", "toknot", "tokmod", "tokif", "tokthen", "tokelse", "tokfor", "tokto", "tokstep",
        "toknext", "tokwhile", "tokwend", "tokgoto", "tokgosub", "tokreturn", "tokon", "tokdata", "tokread", "tokrestore",
        "tokdim", "tokput", "tokget", "tokpunch", "toksave", "tokprint", "tokend", "tokrem",
        "toklet", "tokstop", "tokerase", "tokput_", "tokget_"].map some) := by
  decide +kernel

/-- documented numeric and string functions -/
theorem functions_documented :
    (["abs", "sqr", "sqrt", "exp", "log", "log10", "sin", "cos", "tan", "arctan", "sgn", "floor", "ceil",
      "chr$", "str$", "mid$", "len", "asc", "val", "instr", "ltrim", "rtrim", "trim", "pad", "pad$", "eol$"].map lookupKw)
    = (["tokabs", "toksqr", "toksqrt", "tokexp", "toklog", "toklog10", "toksin", "tokcos", "toktan", "tokarctan", "toksgn",
        "tokfloor", "tokceil", "tokchr_", "tokstr_", "tokmid_", "toklen", "tokasc", "tokval", "tokinstr", "tokltrim",
        "tokrtrim", "toktrim", "tokpad", "tokpad_", "tokeol_"].map some) := by
  decide +kernel

def enumIndex (t : String) : Option Nat :=
  let i := BasicTokens.tokEnum.findIdx (· == t)
  if i < BasicTokens.tokEnum.length then some i else none

/-- `relexpr` tests `(1L << (tokne + 1)) - (1L << tokeq)`: the enumerators from `tokeq` to `tokne` are exactly the
six relational operators (and all below 32, so the `long` mask can hold them) -/
theorem rel_mask_is_the_six_relations :
    BasicTokens.relRange = ("tokeq", "tokne") ∧
    (BasicTokens.tokEnum.drop 14).take 6 = ["tokeq", "toklt", "tokgt", "tokle", "tokge", "tokne"] ∧
    enumIndex "tokeq" = some 14 ∧ enumIndex "tokne" = some 19 := by
  decide +kernel

/-- the operator masks of `term`, `sexpr`, `expr` name exactly the operators of their level; the guard `kind < N` in
front of every `1L << kind` test fits the width of `long` (`N ≤ 64`), every masked enumerator — and the relational
range — lies below `N` (so the guard never cuts an operator off), and so do the separators tested by PRINT/PUNCH/SAVE -/
theorem loop_masks :
    BasicTokens.mask_term = ["toktimes", "tokdiv", "tokmod"] ∧
    BasicTokens.mask_sexpr = ["tokplus", "tokminus"] ∧
    BasicTokens.mask_expr = ["tokor", "tokxor"] ∧
    BasicTokens.maskBits ≤ 64 ∧
    (["toktimes", "tokdiv", "tokmod", "tokplus", "tokminus", "tokor", "tokxor", "tokand", "toksemi", "tokcomma",
      "tokeq", "toklt", "tokgt", "tokle", "tokge", "tokne"].all
      fun t => match enumIndex t with
        | some i => i < BasicTokens.maskBits
        | none => false) = true := by
  decide +kernel

/-- **Round trip.** For every well-formed derivation `d` of the documented expression grammar
(`Model/BasicGrammar.lean`: seven levels, all fifteen binary operators, prefix operators and functions,
subscripted variables, `GET`/`GET$` argument lists, the parenthesised-argument string functions incl. `MID$`,
`PAD`, `STR_F$`, `STR_E$`; redundant parentheses allowed) the parser of the model — `expr` down to `factor`, the
code's seven functions — returns exactly the tree `d` denotes (`Deriv.den`: a chain at one level is the *left* fold
of its operators, `^` nests to the *right*, prefix operators bind tighter than any binary operator), consuming
exactly the tokens of `d`, whenever what follows cannot continue an expression. `Deriv` has a constructor for every
constructor of `Expr`, so this covers every expression form of the model. `∃ N` is the nesting budget (fuel) of the
parser; the drivers run it with `parseFuel`. -/
theorem parse_print_roundtrip {α : Type} (d : Deriv α) (hw : d.WF) (rest : List (Tok α))
    (hf : FollowOk 0 rest) :
    ∃ N, ∀ n, n ≥ N → pExpr n (d.flat ++ rest) = .ok (d.den, rest) :=
  (roundtrip_deriv d hw rest 0 (Nat.zero_le _) hf).pExpr

/-- the same at every grammar level (e.g. level 5: what `upexpr` returns) -/
theorem parse_level_roundtrip {α : Type} (d : Deriv α) (hw : d.WF) (rest : List (Tok α)) (l : Nat)
    (hl : l ≤ d.level) (hf : FollowOk l rest) :
    ∃ N, ∀ n, n ≥ N → pLvl n l (d.flat ++ rest) = .ok (d.den, rest) :=
  roundtrip_deriv d hw rest l hl hf

/-- argument lists (subscripts, GET): `(, expr)* )` is read left to right into the argument list, whatever follows -/
theorem parse_args_roundtrip {α : Type} (a : DArgs α) (hw : a.WF) (rest : List (Tok α)) :
    ∃ N, ∀ n, n ≥ N → pArgsTail n (a.flat ++ rest) = .ok (a.den, rest) :=
  roundtrip_args a hw rest

/-- non-vacuity with subscripts and GET: `a(1, i + 1) * GET(2) ^ 2` -/
example :
    parseExpr (α := Nat)
      [.var "a", .k .lp, .num 1, .k .comma, .var "i", .k .plus, .num 1, .k .rp, .k .times,
       .k .get, .k .lp, .num 2, .k .rp, .k .up, .num 2]
    = .ok (.bin .times (.var "a" (.cons (.num 1) (.cons (.bin .plus (.var "i" .nil) (.num 1)) .nil)))
            (.bin .up (.get (.cons (.num 2) .nil)) (.num 2)), []) := by
  rfl

/-- non-vacuity: `- 2 ^ 2 ^ 3 * 4 - 5 - 6 < 7 AND 1 OR 0`: unary minus inside `^`, `^` to the right,
`-` to the left, relation above AND above OR — parsed with the fuel the drivers use -/
example :
    parseExpr (α := Nat)
      [.k .minus, .num 2, .k .up, .num 2, .k .up, .num 3, .k .times, .num 4, .k .minus, .num 5, .k .minus, .num 6,
       .k .lt, .num 7, .k .and_, .num 1, .k .or_, .num 0]
    = .ok (.bin .or_
            (.bin .and_
              (.bin .lt
                (.bin .minus
                  (.bin .minus
                    (.bin .times (.bin .up (.un .neg (.num 2)) (.bin .up (.num 2) (.num 3))) (.num 4))
                    (.num 5))
                  (.num 6))
                (.num 7))
              (.num 1))
            (.num 0), []) := by
  rfl

/-- the same string as a derivation: it is well formed and denotes that tree -/
example :
    let d : Deriv Nat :=
      .chain 0 (.chain 1 (.chain 2 (.chain 3 (.chain 4 (.up (.un .neg (.num 2)) (.up (.num 2) (.num 3)))
        (.cons .times (.num 4) .nil)) (.cons .minus (.num 5) (.cons .minus (.num 6) .nil)))
        (.cons .lt (.num 7) .nil)) (.cons .and_ (.num 1) .nil)) (.cons .or_ (.num 0) .nil)
    d.WF ∧ d.flat.length = 18 := by
  refine ⟨?_, rfl⟩
  simp [Deriv.WF, DTail.WF, Deriv.level, binLevel]

/-- **Compositionality.** The value of a binary expression is `applyBin` of the values of its operands, evaluated
left to right with the state threaded through (no short circuit, no dependence on context) -/
theorem eval_compositional {α : Type} [BNum α] (hook : Hook α) (op : BinOp) (a b : Expr α) (s : St α) :
    eval hook (.bin op a b) s =
      (match eval hook a s with
       | .error e => .error e
       | .ok (va, s1) =>
         match eval hook b s1 with
         | .error e => .error e
         | .ok (vb, s2) => applyBin op va vb s2) := by
  rw [eval]; rfl

theorem eval_compositional_un {α : Type} [BNum α] (hook : Hook α) (f : UnFn) (a : Expr α) (s : St α) :
    eval hook (.un f a) s =
      (match eval hook a s with
       | .error e => .error e
       | .ok (v, s1) => applyUn hook f v s1) := by
  rw [eval]; rfl

/-- a run that ends (values or error) within `n` steps ends the same way with any larger budget -/
theorem run_fuel_mono {α : Type} [BNum α] (hook : Hook α) :
    ∀ (n : Nat) (c : Cfg α), (∀ s, runLoop hook n c ≠ .fuel s) → ∀ k, runLoop hook (n + k) c = runLoop hook n c := by
  intro n
  induction n with
  | zero => intro c h; exact absurd rfl (h c.st)
  | succ n ih =>
    intro c h k
    rw [Nat.add_right_comm]
    simp only [runLoop] at h ⊢
    cases hs : step hook c with
    | cont c' =>
      simp only [hs] at h ⊢
      exact ih c' h k
    | done s => rfl
    | err e s => rfl

/-- **Totality.** For every program text, host precision flag and budget the reference evaluation *is* one of:
finished with the state holding the PUNCH/PRINT/SAVE values, a typed BASIC error, or budget exhausted; and the
answer does not depend on the budget once the run ends (no other way to be stuck exists) -/
theorem exec_total {α : Type} [BNum α] (hook : Hook α) (c : Cfg α) (n m : Nat)
    (hn : ∀ s, runLoop hook n c ≠ .fuel s) (hm : ∀ s, runLoop hook m c ≠ .fuel s) :
    runLoop hook n c = runLoop hook m c ∧
    ((∃ s, runLoop hook n c = .done s) ∨ (∃ e s, runLoop hook n c = .err e s)) := by
  constructor
  · rcases Nat.le_total n m with h | h
    · obtain ⟨k, rfl⟩ := Nat.exists_eq_add_of_le h
      exact (run_fuel_mono hook n c hn k).symm
    · obtain ⟨k, rfl⟩ := Nat.exists_eq_add_of_le h
      exact run_fuel_mono hook m c hm k
  · cases h : runLoop hook n c with
    | done s => exact Or.inl ⟨s, rfl⟩
    | err e s => exact Or.inr ⟨e, s, rfl⟩
    | fuel s => exact absurd h (hn s)

/-- **Hosts agree.** Every host observes a projection of one and the same run: RATES and CALCULATE_VALUES deliver
the same; a BASIC error of the run is an error under every host; when USER_PUNCH delivers its cells USER_PRINT
delivers its text, and RATES delivers the last SAVE value exactly when there is one (and it is a number) -/
theorem hosts_agree {α : Type} [BNum α] (o : Outcome α) :
    hostOut .rates o = hostOut .calculateValues o ∧
    (∀ e s, o = .err e s → ∀ h, hostOut h o = .basicError) ∧
    (∀ cells, hostOut .userPunch o = .punched cells →
      ∃ s, o = .done s ∧ cells = s.punch.toList ∧
        (∃ text, hostOut .userPrint o = .printed text) ∧
        (∀ x, hostOut .rates o = .saved x ↔ (s.save = some x ∧ BNum.isNaN x = false))) := by
  refine ⟨?_, ?_, ?_⟩
  · cases o <;> rfl
  · intro e s h hst; subst h; cases hst <;> rfl
  · intro cells h
    cases o with
    | fuel s => cases h
    | err e s => cases h
    | done s =>
      cases h
      refine ⟨s, rfl, rfl, ⟨_, rfl⟩, fun x => ?_⟩
      simp only [hostOut]
      cases s.save with
      | none => simp
      | some y =>
        simp only [Option.some.injEq]
        constructor
        · intro h'
          split at h'
          · cases h'
          · cases h'
            exact ⟨rfl, Bool.eq_false_iff.mpr ‹_›⟩
        · rintro ⟨rfl, h2⟩
          simp [h2]

theorem popTo_gosub {α : Type} (inner outer : List (Loop α)) (g : Loop α) (hg : g.kind = .gosub)
    (hin : ∀ l ∈ inner, l.kind ≠ .gosub) :
    popTo (fun l => l.kind == .gosub) (fun _ => false) (inner ++ g :: outer) = some (g, outer) := by
  rw [popTo_append inner _ fun l hl => ⟨rfl, beq_false_of_ne (hin l hl)⟩]
  simp [popTo, hg]

/-- **GOSUB/RETURN stack, any nesting depth.** GOSUB records the place behind itself on top of the stack and jumps;
RETURN — whatever FOR/WHILE frames the subroutine left open (`inner`, any number) and however many callers are
waiting below (`outer`, any depth) — resumes right behind the *innermost pending* GOSUB (its line, the tokens after
its line number up to the end of that statement), discards exactly the frames above it and leaves the callers'
frames untouched -/
theorem gosub_return_stack {α : Type} [BNum α] (hook : Hook α) (s : St α) (line : Option Nat)
    (t : List (Tok α)) (inner outer : List (Loop α)) (g : Loop α) (hg : g.kind = .gosub)
    (hin : ∀ l ∈ inner, l.kind ≠ .gosub) (hs : s.loops = inner ++ g :: outer) :
    execStmt hook s line (.k .return_) t
      = .ok { st := { s with loops := outer }, line := g.homeline, t := skipToEos g.hometok } ∧
    (∀ (s' : St α) (line' : Option Nat) (t' : List (Tok α)),
      execStmt hook s' line' (.k .gosub) t'
        = cmdGoto hook { s' with loops := { kind := .gosub, homeline := line', hometok := t',
                                            max := BNum.zero, step := BNum.zero } :: s'.loops } t') := by
  constructor
  · unfold execStmt
    simp only [hs, popTo_gosub inner outer g hg hin]
  · intro s' line' t'; rfl

/-- RETURN with no pending GOSUB is the BASIC error "RETURN without GOSUB" (never a jump) -/
theorem return_without_gosub {α : Type} [BNum α] (hook : Hook α) (s : St α) (line : Option Nat)
    (t : List (Tok α)) (h : ∀ l ∈ s.loops, l.kind ≠ .gosub) :
    execStmt hook s line (.k .return_) t = .error .returnWoGosub := by
  have := popTo_append (p := fun l : Loop α => l.kind == .gosub) (stopAt := fun _ => false) s.loops []
    fun l hl => ⟨rfl, beq_false_of_ne (h l hl)⟩
  rw [List.append_nil] at this
  unfold execStmt
  simp only [this, popTo]

/-- the forward scan stops at the *first* token (in program order) where the predicate holds -/
theorem scanToks_first {α σ : Type} (f : σ → Tok α → List (Tok α) → σ × Bool) :
    ∀ (ts : List (Tok α)) (st : σ) (r : List (Tok α)), scanToks f st ts = .inr r →
      ∃ pre tk st', ts = pre ++ tk :: r ∧ (f st' tk r).2 = true ∧
        (∀ pre1 tk1 suf, pre = pre1 ++ tk1 :: suf → ∃ st1, (f st1 tk1 (suf ++ tk :: r)).2 = false) := by
  intro ts
  induction ts with
  | nil => intro st r h; cases h
  | cons t ts ih =>
    intro st r h
    simp only [scanToks] at h
    cases hstop : (f st t ts).2 with
    | true =>
      simp only [hstop, if_true, Sum.inr.injEq] at h
      subst h
      exact ⟨[], t, st, rfl, hstop, fun pre1 _ _ hp => absurd hp (by simp)⟩
    | false =>
      simp only [hstop, Bool.false_eq_true, if_false] at h
      obtain ⟨pre, tk, st', rfl, hf, hno⟩ := ih _ r h
      refine ⟨t :: pre, tk, st', rfl, hf, fun pre1 tk1 suf hp => ?_⟩
      cases pre1 with
      | nil => cases hp; exact ⟨st, hstop⟩
      | cons p ps => exact hno ps tk1 suf (List.cons.inj hp).2

/-- **READ takes the DATA items in program order.** The position of the next item (`dataPos`, what `cmdread` uses):
directly behind a comma that follows the item read last (the next item of the same DATA statement, left to right);
otherwise the first `DATA` token followed by an item, searching forward from the current position through the
rest of that line and then the following lines in line-number order; none left is the error "Out of Data" -/
theorem read_data_order {α : Type} [BNum α] (s : St α) (i : Nat) (hdl : s.dataline = some i) :
    (headIs s.datatok .comma = true → dataPos s = .ok (some i, s.datatok.drop 1)) ∧
    (headIs s.datatok .comma = false →
      (∀ p, dataPos s = .ok p ↔ scanStream dataStep () (streamFrom s (some i) s.datatok) = some p) ∧
      (scanStream dataStep () (streamFrom s (some i) s.datatok) = none → dataPos s = .error .outOfData)) ∧
    (∀ r, scanToks dataStep () s.datatok = .inr r →
      ∃ pre tk, s.datatok = pre ++ tk :: r ∧ tk.isK .data = true ∧ isEos r = false ∧
        dataPos s = (if headIs s.datatok .comma then .ok (some i, s.datatok.drop 1) else .ok (some i, r))) := by
  rw [dataPos_of_dataline hdl]
  refine ⟨fun h => by rw [if_pos h], fun h => ?_, fun r hr => ?_⟩
  · rw [if_neg (by simp [h])]
    cases scanStream dataStep () (streamFrom s (some i) s.datatok) <;> simp
  · obtain ⟨pre, tk, _, hts, hf, _⟩ := scanToks_first dataStep s.datatok () r hr
    have hd : tk.isK .data = true ∧ isEos r = false := by simpa [dataStep] using hf
    refine ⟨pre, tk, hts, hd.1, hd.2, ?_⟩
    simp only [streamFrom, scanStream, hr]

section ForLoop
variable (F : RatFns)

/-- **FOR iterations, positive step.** In exact arithmetic (`ratNum F`: `Rat` with arbitrary uninterpreted libm
functions) a loop `FOR v = a TO b STEP s` with `s > 0` whose body leaves `v` alone runs exactly `n` times, where
`n` is the unique number with `a + (n-1)·s ≤ b < a + n·s` (i.e. `n = ⌊(b − a)/s⌋ + 1`), or not at all when
`a > b`; the body sees `a, a+s, …, a+(n−1)s` and the variable is left at `a + n·s`, the first value past the
limit (`a` itself when the loop is skipped). `forLoop` iterates `forSkips` / `nextContinues`, the two decision
functions `execStmt` itself calls for FOR and NEXT (`next_uses_nextContinues`). -/
theorem for_iterations (a b s : Rat) (hs : 0 < s) :
    (b < a → ∀ fuel, @forLoop Rat (ratNum F) a b s fuel = ([], a)) ∧
    (∀ n : Nat, 1 ≤ n → a + ((n : Rat) - 1) * s ≤ b → b < a + (n : Rat) * s → ∀ fuel, n ≤ fuel →
      @forLoop Rat (ratNum F) a b s fuel
        = ((List.range n).map (fun (i : Nat) => a + (i : Rat) * s), a + (n : Rat) * s)) := by
  constructor
  · intro hab fuel
    simp [forLoop, forSkips_pos F hs, hab]
  · intro n hn hle hlt fuel hfuel
    obtain ⟨m, rfl⟩ : ∃ m, n = m + 1 := ⟨n - 1, by omega⟩
    rw [Nat.cast_succ, add_sub_cancel_right] at hle
    have hna : ¬ (b < a) :=
      not_lt.mpr (le_trans (le_add_of_nonneg_right (mul_nonneg (Nat.cast_nonneg m) hs.le)) hle)
    simp only [forLoop, forSkips_pos F hs, decide_eq_false hna, Bool.false_eq_true, if_false]
    refine forBody_count F b s m a fuel hfuel (fun i _ hi => ?_) ?_
    · have : (i : Rat) * s ≤ m * s := mul_le_mul_of_nonneg_right (Nat.cast_le.mpr hi) hs.le
      rw [nextContinues_pos F hs, decide_eq_true_eq]
      exact le_trans ((add_le_add_iff_left a).mpr this) hle
    · rw [nextContinues_pos F hs, decide_eq_false_iff_not]
      exact not_le.mpr hlt

/-- **FOR iterations, negative step** (`s < 0`, counting down to `b`): the mirror image -/
theorem for_iterations_down (a b s : Rat) (hs : s < 0) :
    (a < b → ∀ fuel, @forLoop Rat (ratNum F) a b s fuel = ([], a)) ∧
    (∀ n : Nat, 1 ≤ n → b ≤ a + ((n : Rat) - 1) * s → a + (n : Rat) * s < b → ∀ fuel, n ≤ fuel →
      @forLoop Rat (ratNum F) a b s fuel
        = ((List.range n).map (fun (i : Nat) => a + (i : Rat) * s), a + (n : Rat) * s)) := by
  constructor
  · intro hab fuel
    simp [forLoop, forSkips_neg F hs, hab]
  · intro n hn hle hlt fuel hfuel
    obtain ⟨m, rfl⟩ : ∃ m, n = m + 1 := ⟨n - 1, by omega⟩
    rw [Nat.cast_succ, add_sub_cancel_right] at hle
    have hna : ¬ (a < b) :=
      not_lt.mpr (le_trans hle (add_le_of_nonpos_right (mul_nonpos_of_nonneg_of_nonpos (Nat.cast_nonneg m) hs.le)))
    simp only [forLoop, forSkips_neg F hs, decide_eq_false hna, Bool.false_eq_true, if_false]
    refine forBody_count F b s m a fuel hfuel (fun i _ hi => ?_) ?_
    · have : (m : Rat) * s ≤ i * s := mul_le_mul_of_nonpos_right (Nat.cast_le.mpr hi) hs.le
      rw [nextContinues_neg F hs, decide_eq_true_eq]
      exact le_trans hle ((add_le_add_iff_left a).mpr this)
    · rw [nextContinues_neg F hs, decide_eq_false_iff_not]
      exact not_le.mpr hlt

/-- the count in closed form: `n = ⌊(b − a)/s⌋ + 1` satisfies the two inequalities that determine it -/
theorem for_count_closed_form (a b s : Rat) (hs : 0 < s) (hab : a ≤ b) :
    let n : Nat := ((b - a) / s).floor.toNat + 1
    1 ≤ n ∧ a + ((n : Rat) - 1) * s ≤ b ∧ b < a + (n : Rat) * s := by
  intro n
  have hfl : 0 ≤ ((b - a) / s).floor := Rat.le_floor_iff.mpr (div_nonneg (sub_nonneg.mpr hab) hs.le)
  have hn : (n : Rat) = ((b - a) / s).floor + 1 := by
    rw [Nat.cast_add, Nat.cast_one, ← Int.cast_natCast, Int.toNat_of_nonneg hfl]
  have h1 := (le_div_iff₀ hs).mp (Rat.floor_le ((b - a) / s))
  have h2 := (div_lt_iff₀ hs).mp (Rat.lt_floor_add_one ((b - a) / s))
  rw [Int.cast_add, Int.cast_one] at h2
  rw [hn, add_sub_cancel_right]
  exact ⟨Nat.succ_le_succ (Nat.zero_le _), le_sub_iff_add_le'.mp h1, sub_lt_iff_lt_add'.mp h2⟩

/-- non-vacuity: `FOR i = 1 TO 2.2 STEP 0.5` runs three times (1, 1.5, 2) and leaves `i = 2.5` -/
example : @forLoop Rat (ratNum F) (1 : Rat) (22 / 10) (1 / 2) 10 = ([1, 3 / 2, 2], 5 / 2) := by
  have := (for_iterations F 1 (22 / 10) (1 / 2) (by norm_num)).2 3 (by norm_num) (by norm_num) (by norm_num) 10 (by norm_num)
  rw [this]
  norm_num [List.range_succ]

end ForLoop

/-- the NEXT statement of the machine decides with `nextContinues` on the incremented *designated cell* of the FOR
frame on top of the stack (`l.cell`, recorded by FOR): that cell becomes `v + step`; the machine goes back to the
frame's home position when `nextContinues` holds and otherwise drops the frame and goes on behind NEXT. The
variable's own pointer (`ptr`, moved by every reference to the array) plays no role. -/
theorem next_uses_nextContinues {α : Type} [BNum α] (hook : Hook α) (s : St α) (line : Option Nat)
    (l : Loop α) (rest : List (Loop α)) (hk : l.kind = .for_) (hs : s.loops = l :: rest) :
    let nv := BNum.add ((s.getVar l.var).numAt l.cell) l.step
    let s2 := s.setVar l.var ((s.getVar l.var).setNumAt l.cell nv)
    execStmt hook s line (.k .next) [] =
      (if nextContinues nv l.max l.step then
        .ok { st := { s2 with loops := l :: rest }, line := l.homeline, t := l.hometok }
       else .ok { st := { s2 with loops := rest }, line := line, t := [] }) := by
  unfold execStmt
  simp [isEos, hs, popTo, hk]

/-- **The loop cell is independent of what the body, limit and step expressions reference.** Reading and writing the
designated cell do not depend on where the variable's pointer was left (af19d591), the pointer itself is left alone,
and a write to the designated array cell changes no other cell. Together with `next_uses_nextContinues`,
`for_iterations` and `for_count_closed_form`: a FOR loop whose body does not assign its loop cell runs
`max 0 (⌊(limit − start)/step⌋ + 1)` times and leaves the designated cell at the first value past the limit, whatever
elements of the same array the body / limit / step expressions reference. -/
theorem for_cell_ignores_pointer {α : Type} [BNum α] (v : Var α) (p cell : Option Nat) (x : α) :
    ({ v with ptr := p } : Var α).numAt cell = v.numAt cell ∧
    (({ v with ptr := p } : Var α).setNumAt cell x).ptr = p ∧
    ((v.setNumAt cell x).numAt cell = x ∨ (∃ k, cell = some k ∧ v.arr.size ≤ k)) := by
  refine ⟨rfl, rfl, ?_⟩
  cases cell with
  | none => left; simp [Var.setNumAt, Var.numAt, Var.setNum, Var.numVal]
  | some k =>
    by_cases hk : k < v.arr.size
    · left; simp [Var.setNumAt, Var.numAt, Var.setNum, Var.numVal, Array.setIfInBounds, hk]
    · right; exact ⟨k, rfl, Nat.le_of_not_lt hk⟩

/-- ERASE inside a running FOR loop on an element of the erased array: the loop continues on the scalar cell -/
theorem erase_repoints_for_cell {α : Type} [BNum α] (s : St α) (name : String) (l : Loop α) (rest : List (Loop α))
    (hk : l.kind = .for_) (hv : l.var = name) (hs : s.loops = l :: rest) :
    ∃ s1 r', cmdErase 1 s [.var name] = .ok (s1, r') ∧ (s1.loops.head?.map (·.cell)) = some none := by
  refine ⟨_, _, rfl, ?_⟩
  simp [St.setVar_loops, hs, hk, hv]

def NoIfElse {α : Type} (ts : List (Tok α)) : Prop := ∀ t ∈ ts, t.isK .if_ = false ∧ t.isK .else_ = false

theorem skipToElse_prefix {α : Type} (pre rest : List (Tok α)) (h : NoIfElse pre) (i : Int) (hi : 0 ≤ i) :
    skipToElse i (pre ++ rest) = skipToElse i rest := by
  induction pre with
  | nil => rfl
  | cons t ts ih =>
    have ht := h t (List.mem_cons_self ..)
    simp only [List.cons_append, skipToElse, ht.1, ht.2]
    simp only [Bool.false_eq_true, if_false, hi, if_true]
    exact ih (fun x hx => h x (List.mem_cons_of_mem _ hx))

/-- the false branch of `IF c THEN <then part> ELSE <else part>` continues exactly at the else part; nested
`IF … ELSE` pairs inside the then part are stepped over (the counter) -/
theorem skipToElse_matching {α : Type} (thenPart elsePart : List (Tok α)) (h : NoIfElse thenPart) :
    skipToElse 0 (thenPart ++ (.k .else_ : Tok α) :: elsePart) = elsePart := by
  rw [skipToElse_prefix _ _ h 0 (Int.le_refl 0), skipToElse_else_zero]

theorem skipToElse_nested {α : Type} (p1 p2 p3 elsePart : List (Tok α))
    (h1 : NoIfElse p1) (h2 : NoIfElse p2) (h3 : NoIfElse p3) :
    skipToElse 0 (p1 ++ (.k .if_ : Tok α) :: (p2 ++ (.k .else_ : Tok α) :: (p3 ++ (.k .else_ : Tok α) :: elsePart)))
      = elsePart := by
  rw [skipToElse_prefix _ _ h1 0 (Int.le_refl 0), skipToElse_if 0 (Int.le_refl 0),
    skipToElse_prefix _ _ h2 (0 + 1) (by decide), skipToElse_else_succ 0 (Int.le_refl 0),
    skipToElse_prefix _ _ h3 0 (Int.le_refl 0), skipToElse_else_zero]

/-- without an ELSE the false branch skips the rest of the line -/
theorem skipToElse_no_else {α : Type} (ts : List (Tok α)) (h : NoIfElse ts) : skipToElse 0 ts = [] := by
  have := skipToElse_prefix ts [] h 0 (Int.le_refl 0)
  simpa [skipToElse] using this

/-- **IF/THEN/ELSE.** With the condition evaluated to `x` and `THEN` found: a non-zero `x` continues with the
statement right behind THEN, a zero `x` with the statement behind the matching ELSE (or nothing); if that place
holds a number the statement is `GOTO` that line; the state is the one the condition left (no other effect) -/
theorem if_then_else {α : Type} [BNum α] (hook : Hook α) (s s1 : St α) (line : Option Nat)
    (t t1 : List (Tok α)) (x : α)
    (h : realExprAt hook t s = .ok (x, (.k .then_ : Tok α) :: t1, s1)) :
    let target := if BNum.eq x BNum.zero then skipToElse 0 t1 else t1
    (∀ y r, target = .num y :: r → execStmt hook s line (.k .if_) t = cmdGoto hook s1 target) ∧
    ((∀ y r, target ≠ .num y :: r) →
      execStmt hook s line (.k .if_) t = .ok { st := s1, line := line, t := target, els := true }) := by
  intro target
  have e : execStmt hook s line (.k .if_) t =
      (match target with
       | .num _ :: _ => cmdGoto hook s1 target
       | _ => .ok { st := s1, line := line, t := target, els := true }) := by
    unfold execStmt
    simp only [h, requireK_cons]
    rfl
  constructor
  · intro y r ht
    rw [e, ht]
  · intro hn
    rw [e]
    cases htg : target with
    | nil => rfl
    | cons tk r =>
      cases tk with
      | num y => exact absurd htg (hn y r)
      | _ => rfl

/-- reaching ELSE as a statement (the end of an executed then part) skips the rest of the line -/
theorem else_skips_rest {α : Type} [BNum α] (hook : Hook α) (s : St α) (line : Option Nat) (t : List (Tok α)) :
    execStmt hook s line (.k .else_) t = .ok { st := s, line := line, t := [] } := rfl

def NoWhileWend {α : Type} (ts : List (Tok α)) : Prop := ∀ t ∈ ts, t.isK .while_ = false ∧ t.isK .wend = false

theorem whileSkip_prefix {α : Type} (pre rest : List (Tok α)) (h : NoWhileWend pre) (i : Int) (hi : 0 ≤ i) :
    scanToks whileSkipStep i (pre ++ rest) = scanToks whileSkipStep i rest := by
  induction pre with
  | nil => rfl
  | cons t ts ih =>
    have ht := h t (List.mem_cons_self ..)
    simp only [List.cons_append, scanToks, whileSkipStep, ht.1, ht.2]
    simp only [Bool.false_eq_true, if_false, hi, decide_true, Bool.not_true]
    exact ih (fun x hx => h x (List.mem_cons_of_mem _ hx))

/-- a false WHILE skips to just behind the WEND that matches it: loop-free body, and one nested WHILE…WEND -/
theorem while_skips_to_matching_wend {α : Type} (body rest : List (Tok α)) (h : NoWhileWend body) :
    scanToks whileSkipStep (0 : Int) (body ++ (.k .wend : Tok α) :: rest) = .inr rest := by
  rw [whileSkip_prefix _ _ h 0 (Int.le_refl 0), whileSkip_wend_zero]

theorem while_skips_nested {α : Type} (b1 b2 b3 rest : List (Tok α))
    (h1 : NoWhileWend b1) (h2 : NoWhileWend b2) (h3 : NoWhileWend b3) :
    scanToks whileSkipStep (0 : Int)
      (b1 ++ (.k .while_ : Tok α) :: (b2 ++ (.k .wend : Tok α) :: (b3 ++ (.k .wend : Tok α) :: rest))) = .inr rest := by
  rw [whileSkip_prefix _ _ h1 0 (Int.le_refl 0), whileSkip_while 0 (Int.le_refl 0),
    whileSkip_prefix _ _ h2 (0 + 1) (by decide), whileSkip_wend_succ 0 (Int.le_refl 0),
    whileSkip_prefix _ _ h3 0 (Int.le_refl 0), whileSkip_wend_zero]

/-- **WHILE.** The statement records its own position on the stack; a non-zero condition enters the body (behind the
condition); a zero condition removes the record again and continues behind the matching WEND found by the forward
scan (rest of that statement skipped); no matching WEND is the error "WHILE without WEND" -/
theorem while_statement {α : Type} [BNum α] (hook : Hook α) (s s1 : St α) (line : Option Nat)
    (t t1 : List (Tok α)) (x : α) (hne : isEos t = false)
    (h : realExprAt hook t { s with loops := { kind := .while_, homeline := line, hometok := t,
                                               max := BNum.zero, step := BNum.zero } :: s.loops } = .ok (x, t1, s1)) :
    (BNum.ne0 x = true → execStmt hook s line (.k .while_) t = .ok { st := s1, line := line, t := t1 }) ∧
    (BNum.ne0 x = false →
      (∀ ln r, scanStream whileSkipStep (0 : Int) (streamFrom s1 line t1) = some (ln, r) →
        execStmt hook s line (.k .while_) t
          = .ok { st := { s1 with loops := s1.loops.drop 1 }, line := ln, t := skipToEos r }) ∧
      (scanStream whileSkipStep (0 : Int) (streamFrom s1 line t1) = none →
        execStmt hook s line (.k .while_) t = .error .whileWoWend)) := by
  unfold execStmt
  simp only [hne, h]
  refine ⟨?_, ?_⟩
  · intro hx
    simp [hx]
  · intro hx
    refine ⟨?_, ?_⟩
    · intro ln r hsc
      simp [hx, hsc]
    · intro hsc
      simp [hx, hsc]

/-- **WEND** (plain, no UNTIL expression) with the WHILE record `w` on top of the stack: the condition of the WHILE is
evaluated again at the WHILE's own position; non-zero goes round (stack unchanged, execution continues behind the
condition), zero drops the record and continues behind WEND -/
theorem wend_statement {α : Type} [BNum α] (hook : Hook α) (s s2 : St α) (line : Option Nat)
    (w : Loop α) (rest : List (Loop α)) (x : α) (t2 : List (Tok α))
    (hk : w.kind = .while_) (hs : s.loops = w :: rest) (hc : isEos w.hometok = false)
    (h : realExprAt hook w.hometok s = .ok (x, t2, s2)) :
    execStmt hook s line (.k .wend) [] =
      (if BNum.eq x BNum.zero then .ok { st := { s2 with loops := s2.loops.drop 1 }, line := line, t := [] }
       else .ok { st := s2, line := w.homeline, t := t2 }) := by
  have hs' : ({ s with loops := w :: rest } : St α) = s := by rw [← hs]
  have he : isEos ([] : List (Tok α)) = true := rfl
  unfold execStmt
  simp [hs, popTo, hk, he, hc, hs', h]

/-- WEND without an open WHILE (empty stack or a GOSUB frame on top) is the error "WEND without WHILE" -/
theorem wend_without_while {α : Type} [BNum α] (hook : Hook α) (s : St α) (line : Option Nat) (t : List (Tok α))
    (h : s.loops = [] ∨ ∃ g rest, s.loops = g :: rest ∧ g.kind = .gosub) :
    execStmt hook s line (.k .wend) t = .error .wendWoWhile := by
  unfold execStmt
  rcases h with h | ⟨g, rest, h, hg⟩
  · simp [h, popTo]
  · simp [h, popTo, hg]

theorem find_map_same {β : Type} (k : String) (v : β) :
    ∀ l : List (String × β), l.any (fun p => p.1 == k) = true →
      (l.map fun p => if (p.1 == k) = true then (k, v) else p).find? (fun p => p.1 == k) = some (k, v)
  | [], h => by cases h
  | p :: ps, h => by
    rw [List.map_cons, List.find?_cons]
    cases hp : (p.1 == k) with
    | true => simp only [if_true, beq_self_eq_true]
    | false =>
      rw [List.any_cons, hp, Bool.false_or] at h
      simp only [Bool.false_eq_true, if_false, hp]
      exact find_map_same k v ps h

theorem find_map_other {β : Type} (k k' : String) (v : β) (hkb : (k == k') = false) :
    ∀ l : List (String × β),
      (l.map fun p => if (p.1 == k) = true then (k, v) else p).find? (fun p => p.1 == k') = l.find? (fun p => p.1 == k')
  | [] => rfl
  | p :: ps => by
    cases hp : (p.1 == k) with
    | true =>
      have hpk : p.1 = k := by simpa using hp
      have hpk' : (p.1 == k') = false := by rw [hpk]; exact hkb
      simp only [List.map_cons, hp, if_true, List.find?_cons, hkb, hpk']
      exact find_map_other k k' v hkb ps
    | false =>
      simp only [List.map_cons, hp, Bool.false_eq_true, if_false, List.find?_cons]
      cases (p.1 == k') with
      | true => rfl
      | false => exact find_map_other k k' v hkb ps

theorem store_get_put_same {β : Type} (l : List (String × β)) (k : String) (v d : β) :
    lookupD (insertKV l k v) k d = v := by
  unfold insertKV lookupD
  cases h : l.any (fun p => p.1 == k) with
  | true => simp only [if_true, find_map_same k v l h]
  | false => simp

theorem store_get_put_other {β : Type} (l : List (String × β)) (k k' : String) (v d : β) (hk : k' ≠ k) :
    lookupD (insertKV l k v) k' d = lookupD l k' d := by
  have hkb : (k == k') = false := by simpa using (Ne.symm hk)
  unfold insertKV lookupD
  cases h : l.any (fun p => p.1 == k) with
  | true => simp only [if_true, find_map_other k k' v hkb l]
  | false => simp [hkb]

/-- **GET reads the store.** `GET(i, j, …)` is the value stored under the key text of its rounded subscripts, `0` when
nothing was PUT there; evaluating it changes nothing but what its subscripts change -/
theorem get_reads_store {α : Type} [BNum α] (hook : Hook α) (a : Args α) (s : St α) :
    eval hook (.get a) s =
      (match evalInts hook a s with
       | .error e => .error e
       | .ok (is, s1) => .ok (.num (lookupD s1.putN (keyOf is) BNum.zero), s1)) := by
  rw [eval]; rfl

/-- **PUT writes the store.** `PUT(x, i, j, …)`: value `x`, key text `k` of the subscripts → the store maps `k` to
`x` and every other key as before (`store_get_put_same`, `store_get_put_other`) -/
theorem put_writes_store {α : Type} [BNum α] (hook : Hook α) (s s1 s2 : St α) (t t2 r : List (Tok α))
    (x : α) (key : String)
    (hv : realExprAt hook t s = .ok (x, t2, s1))
    (hk : putKeys hook (t2.length + 1) s1 t2 "" = .ok (key, s2, r)) :
    cmdPut hook false s ((.k .lp : Tok α) :: t) = .ok ({ s2 with putN := insertKV s2.putN key x }, r) := by
  simp [cmdPut, requireK_cons, hv, hk]

/-- the store is part of the one run every host observes (`hosts_agree`): what PUT stored, GET returns, whatever the
host — in particular the values read back and PUNCHed / SAVEd are the same -/
theorem put_then_get {α : Type} [BNum α] (s : St α) (key : String) (x : α) (d : α) :
    lookupD ({ s with putN := insertKV s.putN key x } : St α).putN key d = x ∧
    (∀ key', key' ≠ key → lookupD ({ s with putN := insertKV s.putN key x } : St α).putN key' d = lookupD s.putN key' d) :=
  ⟨store_get_put_same _ _ _ _, fun _ h => store_get_put_other _ _ _ _ _ h⟩

/-- **LET stores into the element its left-hand side designates.** `findvar` leaves the per-variable cell pointer on the
element referenced last; the right-hand side may reference other elements of the same array (moving that pointer) —
the value still goes to the cell the left-hand side designated, and the pointer is put back there (`cmdlet`'s
save/restore, numeric and string alike) -/
theorem let_stores_in_designated_cell {α : Type} [BNum α] (hook : Hook α) (s s1 s2 : St α) (name : String)
    (t t2 r : List (Tok α))
    (hv : varRefAt hook t s = .ok (name, (.k .eq : Tok α) :: t2, s1)) :
    (∀ x, isStrName name = false → realExprAt hook t2 s1 = .ok (x, r, s2) →
      cmdLet hook s t = .ok (s2.setVar name ({ s2.getVar name with ptr := (s1.getVar name).ptr }.setNum x), r)) ∧
    (∀ x, isStrName name = true → strExprAt hook t2 s1 = .ok (x, r, s2) →
      cmdLet hook s t = .ok (s2.setVar name ({ s2.getVar name with ptr := (s1.getVar name).ptr }.setStr x), r)) := by
  constructor
  · intro x hn he
    simp [cmdLet, hv, requireK_cons, hn, he]
  · intro x hn he
    simp [cmdLet, hv, requireK_cons, hn, he]

/-- the cell a store goes to is the designated one whatever the pointer was moved to meanwhile -/
theorem setNum_designated {α : Type} [BNum α] (v : Var α) (k : Nat) (x : α) (hk : k < v.arr.size) :
    (({ v with ptr := some k }.setNum x).arr[k]? = some x) ∧
    (∀ j, j ≠ k → ({ v with ptr := some k }.setNum x).arr[j]? = v.arr[j]?) := by
  constructor
  · simp [Var.setNum, Array.setIfInBounds, hk]
  · intro j hj
    simp [Var.setNum, Array.setIfInBounds, hk, Ne.symm hj]

/-- **The store outlives the program.** A program defined later in the same engine (a redefined USER_PUNCH, another
host's program) starts with fresh lines, variables, loop stack and DATA pointer but finds the PUT/PUT$ store exactly as
the earlier program left it -/
theorem store_survives_redefinition {α : Type} [BNum α] (s : St α) :
    (carryOver s).putN = s.putN ∧ (carryOver s).putS = s.putS ∧
    (carryOver s).vars = [] ∧ (carryOver s).loops = [] ∧ (carryOver s).lines = [] ∧ (carryOver s).dataline = none ∧
    ∀ key d, lookupD (carryOver s).putN key d = lookupD s.putN key d :=
  ⟨rfl, rfl, rfl, rfl, rfl, rfl, fun _ _ => rfl⟩

/-- running one program is running it from the empty engine state -/
theorem compileAndRun_eq_from {α : Type} [BNum α] (hp : Bool) (fuel : Nat) (text : String) :
    compileAndRun (α := α) hp fuel text = compileAndRunFrom ({ hp := hp } : St α) fuel text := rfl

/-- **Program isolation.** What program B computes when it runs after program A in the same engine depends on A only
through what outlives a program (`carryOver`: the PUT/PUT$ store and the three output flags): A's lines, variables,
array dimensions, loop/GOSUB stack, DATA pointer, PUNCH/PRINT/SAVE values are invisible to B — even when both use
the same line numbers, jump targets and variable names -/
theorem program_isolation {α : Type} [BNum α] (sA sA' : St α) (fuel : Nat) (textB : String)
    (hN : sA.putN = sA'.putN) (hS : sA.putS = sA'.putS) (hp : sA.hp = sA'.hp)
    (h1 : sA.punchTab = sA'.punchTab) (h2 : sA.skipPunch = sA'.skipPunch) (h3 : sA.outNewline = sA'.outNewline) :
    compileAndRunFrom (carryOver sA) fuel textB = compileAndRunFrom (carryOver sA') fuel textB := by
  have : carryOver sA = carryOver sA' := by
    simp only [carryOver, hN, hS, hp, h1, h2, h3]
  rw [this]

/-- **B after A = B alone** when A left the store empty and the output flags at rest (the state every engine starts
from): the reference evaluation of B in a multi-program simulation is its evaluation alone -/
theorem run_after_equals_run_alone {α : Type} [BNum α] (sA : St α) (fuel : Nat) (textB : String)
    (hN : sA.putN = []) (hS : sA.putS = []) (h1 : sA.punchTab = true) (h2 : sA.skipPunch = false)
    (h3 : sA.outNewline = true) :
    compileAndRunFrom (carryOver sA) fuel textB = compileAndRun sA.hp fuel textB := by
  have : carryOver sA = ({ hp := sA.hp } : St α) := by
    simp only [carryOver, hN, hS, h1, h2, h3]
  rw [this]
  rfl

end PhreeqcVerif.C17
