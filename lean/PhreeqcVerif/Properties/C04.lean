import PhreeqcVerif.Lemmas.LineReader
import PhreeqcVerif.Lemmas.Wrapper
/-!
# C04 — results depend only on the input text, not on how it is delivered or split

Model: `Model/LineReader.lean` (the reader, byte level) and `Model/Wrapper.lean` (the IPhreeqc object over an abstract engine).
What is proved here holds for all byte strings, all wrapper states and all engines.  The splitting theorems ask of the engine
that the text can be cut where it is cut (`Engine.boundary`; an END boundary of the reader the engine reads through gives it)
and `Engine.CallLocalFree` ("`simStep` does not read the simulation counter, the forced-headings flag and `first_read_input`,
except for stamping the `sim` column"); the latter is what `tools/props/c04.py` explores on the real code.
-/
namespace PhreeqcVerif.C04
open PhreeqcVerif.LineReader PhreeqcVerif.Wrapper PhreeqcVerif.Gen.Keywords

/-! ## the reader -/

/-- The caller's loop "call get_logical_line until LT_EOF" terminates on every byte string within `|s| + 1` calls and
    yields exactly the fused line list; every call that does not end on EOF consumes at least one byte. -/
theorem lineReader_total (s : Bytes) :
    iterLines (s.length + 1) s = some (linesFrom RS.init s) ∧
    ((scan s).eof = false → (scan s).rest.length < s.length) ∧ ((scan s).eof = true → (scan s).rest = []) :=
  ⟨iterLines_eq _ s (Nat.lt_succ_self _), (scanFrom_rest s RS.init).2, (scanFrom_rest s RS.init).1⟩

/-- Text cut where the reader is between two logical lines tokenises to the concatenation. -/
theorem logicalLines_append (a b : Bytes) (h : closed a = true) :
    logicalLines (a ++ b) = logicalLines a ++ logicalLines b := LineReader.logicalLines_append a b h

/-- … and so do the classified lines that `get_line` hands to the engine. -/
theorem readLines_append (a b : Bytes) (h : closed a = true) : readLines (a ++ b) = readLines a ++ readLines b :=
  LineReader.readLines_append a b h

/-- Text cut at an END boundary gives the same simulation list. -/
theorem simulations_append (a b : Bytes) (h : endBoundary a = true) :
    simulations (a ++ b) = simulations a ++ simulations b := by
  have ⟨h1, h2⟩ := (endBoundary_iff a).1 h
  simp only [simulations, readLines_append a b h1]
  exact sims_append _ _ h2

/-- Any number of cuts at END boundaries. -/
theorem simulations_flatten (ps : List Bytes) (last : Bytes) (h : ∀ p ∈ ps, endBoundary p = true) :
    simulations (ps.flatten ++ last) = (ps.map simulations).flatten ++ simulations last := by
  induction ps with
  | nil => simp
  | cons p ps ih =>
    obtain ⟨hp, hps⟩ := List.forall_mem_cons.1 h
    simp only [List.flatten_cons, List.append_assoc, List.map_cons]
    rw [simulations_append _ _ hp, ih hps]

/-- The generated keyword table: exactly the names `end` and `eof` end a simulation. -/
theorem end_keywords : ∀ p ∈ tableBytes, (p.2 = keyEnd ↔ (p.1 = [101, 110, 100] ∨ p.1 = [101, 111, 102])) := by
  decide +kernel

/-- Every name in the table is a lower-case token without blanks (so the exact lookup of the lower-cased first token is
    the whole classification). -/
theorem keyword_names_are_tokens : ∀ p ∈ tableBytes, p.1 ≠ [] ∧ p.1.all (fun c => !isSpace c && toLower c == c) = true ∧
    p.2 ≠ keyNone ∧ p.2 < keyCount := by decide +kernel

/-! ## the accumulate buffer -/

/-- AccumulateLine l₁ … lₙ on a buffer whose flag is down appends exactly `l₁\n…lₙ\n`. -/
theorem accumulate_is_string {E : Type} (w : W E) (ls : List Bytes) (h : w.clearAccumulated = false) :
    (ls.foldl W.accumulateLine w).getAccumulatedLines = w.stringInput ++ joinLines ls :=
  accumulate_fold ls w h

/-- RunAccumulated feeds exactly the buffer (same result as RunString of it, apart from the buffer and its flag), keeps
    the buffer readable, and the first AccumulateLine after it starts from empty. -/
theorem runAccumulated_feeds_buffer {E : Type} (eng : Engine E) (w : W E) (l : Bytes) :
    (w.run eng .accumulated).1.modInput = (w.run eng (.file (some w.stringInput))).1.modInput ∧
    (w.run eng .accumulated).2 = (w.run eng (.file (some w.stringInput))).2 ∧
    (w.run eng .accumulated).1.getAccumulatedLines = w.stringInput ∧
    ((w.run eng .accumulated).1.accumulateLine l).getAccumulatedLines = cstr l ++ [10] := by
  rw [run_accumulated, run_file]
  exact ⟨rfl, rfl, rfl, rfl⟩

/-- A run of freshly accumulated lines is a run of the string `l₁\n…lₙ\n`. -/
theorem accumulated_run_is_string_run {E : Type} (eng : Engine E) (w : W E) (l : Bytes) (ls : List Bytes)
    (h : w.bufferFresh) :
    (w.deliver eng (.acc (l :: ls))).1.modInput = (w.run eng (.file (some (joinLines (l :: ls))))).1.modInput ∧
    (w.deliver eng (.acc (l :: ls))).2 = (w.run eng (.file (some (joinLines (l :: ls))))).2 := by
  rw [W.deliver, run_accumulated, run_file, accumulate_fold_clean, accumulate_fold_fresh l ls w h]
  exact ⟨rfl, rfl⟩

/-- RunFile / RunString / RunAccumulated differ only in where the text comes from: with the same text they leave the
    same object (apart from the accumulate buffer and its flag) and return the same value. -/
theorem entrypoints_agree {E : Type} (eng : Engine E) (w : W E) (s t : Bytes) (hs : cstr s = t) :
    w.run eng (.str s) = w.run eng (.file (some t)) ∧
    ((({ w with stringInput := t } : W E).run eng .accumulated).1.modInput = (w.run eng (.file (some t))).1.modInput) ∧
    (({ w with stringInput := t } : W E).run eng .accumulated).2 = (w.run eng (.file (some t))).2 := by
  subst hs
  have h := runAccumulated_feeds_buffer eng { w with stringInput := cstr s } []
  exact ⟨rfl, h.1, h.2.1⟩

/-! ## splitting -/

/-- **Split invariance.** For every engine that does not read the call-local fields, every loaded object and every text
    `a ++ b` cut at an END boundary: if the one-call run is error-free then so are the two calls, the data rows of the one
    call are the rows of call 1 followed by the rows of call 2 (the `sim` column excepted), and the final engine state —
    hence the dump and the component list — is the same. -/
theorem split_invariance {E : Type} (eng : Engine E) (hfree : eng.CallLocalFree) (w : W E) (hdb : w.dbLoaded = true)
    (a b : Bytes) (hcut : eng.boundary a) :
    let one := (w.run eng (.file (some (a ++ b)))).1
    let w1 := (w.run eng (.file (some a))).1
    let two := (w1.run eng (.file (some b))).1
    one.rc = 0 →
      w1.rc = 0 ∧ two.rc = 0 ∧
      one.tables.map Row.data = (w1.tables ++ two.tables).map Row.data ∧
      one.engine = two.engine ∧ eng.dump one.engine = eng.dump two.engine ∧
      (one.listComponents eng).2 = (two.listComponents eng).2 := by
  intro one w1 two hrc
  -- the fields of the three results as loops over the simulation lists (`o…`: one call, `a…`/`b…`: the two calls)
  obtain ⟨oEng, oRows, oIn, oIo, -, oUpd⟩ := run_file_fields eng w hdb (a ++ b)
  obtain ⟨aEng, aRows, aIn, aIo, aDb, -⟩ := run_file_fields eng w hdb a
  obtain ⟨bEng, bRows, bIn, bIo, -, bUpd⟩ := run_file_fields eng w1 aDb b
  simp only [rc_zero_iff] at hrc ⊢
  rw [oIn, oIo, hcut b] at hrc
  -- the second call restarts the counter at 1 with the first-read flag up
  obtain ⟨sIn1, sIn2, sIo, sRows, sEng⟩ :=
    loop_split eng hfree (eng.sims a) (eng.sims b) 1 true 1 true w.engine hrc.1
  rw [show w1.engine = _ from aEng] at bEng bRows bIn bIo
  have heng : one.engine = two.engine := by rw [oEng, hcut b, sEng, bEng]
  obtain ⟨io1, io2⟩ := Nat.add_eq_zero_iff.1 (sIo ▸ hrc.2)
  refine ⟨⟨aIn ▸ sIn1, aIo ▸ io1⟩, ⟨bIn ▸ sIn2, bIo ▸ io2⟩, ?_, heng, by rw [heng], ?_⟩
  · rw [oRows, hcut b, sRows, aRows, bRows]
  · simp [W.listComponents, show one.updateComponents = true from oUpd, show two.updateComponents = true from bUpd, heng]

/-- RunFile on the pieces one after the other; collects the return values and the data rows of every call -/
def runPieces {E : Type} (eng : Engine E) : W E → List Bytes → W E × List Nat × List Row
  | w, [] => (w, [], [])
  | w, p :: ps =>
    let w1 := (w.run eng (.file (some p))).1
    let r := runPieces eng w1 ps
    (r.1, w1.rc :: r.2.1, w1.tables ++ r.2.2)

/-- The same for any number of cuts: `ps` are the pieces before the last one, each ending at an END boundary. -/
theorem split_invariance_n {E : Type} (eng : Engine E) (hfree : eng.CallLocalFree) (ps : List Bytes) (last : Bytes)
    (hcut : ∀ p ∈ ps, eng.boundary p) : ∀ (w : W E), w.dbLoaded = true →
    (w.run eng (.file (some (ps.flatten ++ last)))).1.rc = 0 →
      (∀ rc ∈ (runPieces eng w (ps ++ [last])).2.1, rc = 0) ∧
      (w.run eng (.file (some (ps.flatten ++ last)))).1.tables.map Row.data =
        (runPieces eng w (ps ++ [last])).2.2.map Row.data ∧
      (w.run eng (.file (some (ps.flatten ++ last)))).1.engine = (runPieces eng w (ps ++ [last])).1.engine := by
  induction ps with
  | nil => intro w _ hrc; simp only [List.flatten_nil, List.nil_append] at hrc; simp [runPieces, hrc]
  | cons p ps ih =>
    intro w hdb hrc
    obtain ⟨hp, hps⟩ := List.forall_mem_cons.1 hcut
    simp only [List.flatten_cons, List.append_assoc] at hrc ⊢
    obtain ⟨s1, s2, s3, s4, -, -⟩ := split_invariance eng hfree w hdb p (ps.flatten ++ last) hp hrc
    obtain ⟨-, -, -, -, hdb1, -⟩ := run_file_fields eng w hdb p
    obtain ⟨i1, i2, i3⟩ := ih hps _ hdb1 s2
    simp only [List.cons_append, runPieces]
    refine ⟨List.forall_mem_cons.2 ⟨s1, i1⟩, ?_, ?_⟩
    · rw [s3, List.map_append, List.map_append, i2]
    · rw [s4, i3]

/-! ## any entry point for any piece -/

/-- whatever the entry point, a piece leaves the object as RunFile of its text would (apart from the buffer and its flag),
    returns the same value, and leaves the buffer ready for the next delivery -/
theorem deliver_eq_file {E : Type} (eng : Engine E) (w : W E) (d : Delivery) (hw : d.wellFormed) (hb : w.bufferFresh) :
    (w.deliver eng d).1.modInput = (w.run eng (.file (some d.text))).1.modInput ∧
    (w.deliver eng d).2 = (w.run eng (.file (some d.text))).2 ∧ (w.deliver eng d).1.bufferFresh := by
  cases d with
  | str _ | file _ => exact ⟨rfl, rfl, Or.inr (run_file_buffer eng w _)⟩
  | acc ls =>
    cases ls with
    | nil => exact absurd rfl hw
    | cons l ls =>
      -- `joinLines (l :: ls)` is `(Delivery.acc (l :: ls)).text` by definition
      have h := accumulated_run_is_string_run eng w l ls hb
      exact ⟨h.1, h.2, Or.inl rfl⟩

theorem deliverAll_eq_runPieces {E : Type} (eng : Engine E) (ds : List Delivery) (hwf : ∀ d ∈ ds, d.wellFormed) :
    ∀ (w w' : W E), w.modInput = w'.modInput → w.bufferFresh →
      (W.deliverAll eng w ds).1.modInput = (runPieces eng w' (ds.map Delivery.text)).1.modInput ∧
      (W.deliverAll eng w ds).2.1 = (runPieces eng w' (ds.map Delivery.text)).2.1 ∧
      (W.deliverAll eng w ds).2.2 = (runPieces eng w' (ds.map Delivery.text)).2.2 := by
  induction ds with
  | nil => intro w w' h _; exact ⟨h, rfl, rfl⟩
  | cons d ds ih =>
    intro w w' h hb
    obtain ⟨hd, hds⟩ := List.forall_mem_cons.1 hwf
    obtain ⟨e1, e2, e3⟩ := deliver_eq_file eng w d hd hb
    rw [run_file_congr eng w w' h] at e1 e2
    obtain ⟨i1, i2, i3⟩ := ih hds _ _ e1 e3
    have ht : (w.deliver eng d).1.tables = (w'.run eng (.file (some d.text))).1.tables := (congrArg W.tables e1 :)
    simp only [W.deliverAll, List.map_cons, runPieces]
    refine ⟨i1, ?_, ?_⟩
    · rw [i2, e2, run_snd]
    · rw [i3, ht]

/-- **Split invariance, any entry point.** The pieces `ds` (all but the last ending at an END boundary) delivered one after the
    other by RunString, RunFile or AccumulateLine…RunAccumulated, against one RunFile call on the whole text: if the one call
    is error-free, every piece returns 0, the data rows agree (minus `sim`) and the final engine state is the same. -/
theorem split_invariance_deliveries {E : Type} (eng : Engine E) (hfree : eng.CallLocalFree) (w : W E)
    (hdb : w.dbLoaded = true) (hb : w.bufferFresh) (ds : List Delivery) (last : Delivery)
    (hwf : ∀ d ∈ ds ++ [last], d.wellFormed) (hcut : ∀ d ∈ ds, eng.boundary d.text)
    (hrc : (w.run eng (.file (some ((ds.map Delivery.text).flatten ++ last.text)))).1.rc = 0) :
    (∀ rc ∈ (W.deliverAll eng w (ds ++ [last])).2.1, rc = 0) ∧
    (w.run eng (.file (some ((ds.map Delivery.text).flatten ++ last.text)))).1.tables.map Row.data =
      (W.deliverAll eng w (ds ++ [last])).2.2.map Row.data ∧
    (w.run eng (.file (some ((ds.map Delivery.text).flatten ++ last.text)))).1.engine =
      (W.deliverAll eng w (ds ++ [last])).1.engine := by
  obtain ⟨d1, d2, d3⟩ := deliverAll_eq_runPieces eng (ds ++ [last]) hwf w w rfl hb
  rw [List.map_append, List.map_singleton] at d1 d2 d3
  obtain ⟨s1, s2, s3⟩ :=
    split_invariance_n eng hfree (ds.map Delivery.text) last.text (List.forall_mem_map.2 hcut) w hdb hrc
  exact ⟨d2 ▸ s1, d3 ▸ s2, s3.trans (congrArg W.engine d1).symm⟩

/-! ## the reader with include files -/

/-- Cutting the top-level text at a closed line boundary commutes with following the include directives. -/
theorem readLinesFS_append (fs : Bytes → Option Bytes) (d : Nat) (a b : Bytes) (h : closed a = true) :
    readLinesFS fs d (a ++ b) = readLinesFS fs d a ++ readLinesFS fs d b := LineReader.readLinesFS_append fs d a b h

/-- … and cutting at an END boundary of the expanded text gives the same simulation list. -/
theorem simulationsFS_append (fs : Bytes → Option Bytes) (d : Nat) (a b : Bytes) (h : endBoundaryFS fs d a = true) :
    simulationsFS fs d (a ++ b) = simulationsFS fs d a ++ simulationsFS fs d b := by
  have ⟨h1, h2⟩ := (endBoundaryFS_iff fs d a).1 h
  simp only [simulationsFS, linesFS_append fs d a b h1]
  exact sims_append _ _ h2

/-- Without include directives the file system is never consulted. -/
theorem readLinesFS_plain (fs : Bytes → Option Bytes) (d : Nat) (s : Bytes) (h : ∀ l ∈ readLines s, l.incl = none) :
    readLinesFS fs d s = (readLines s).map Item.line := by
  cases d with
  | zero => exact List.map_congr_left fun l hl => by rw [h l hl]
  | succ d =>
    rw [List.map_eq_flatMap, readLinesFS, List.flatMap_def, List.flatMap_def]
    exact congrArg _ (List.map_congr_left fun l hl => by rw [h l hl])

/-- The depth budget is not an assumption about the code: once every directive is resolved within the budget, a larger budget
    gives the same lines. -/
theorem include_depth_mono (fs : Bytes → Option Bytes) : ∀ (d : Nat) (s : Bytes),
    resolved (readLinesFS fs d s) = true → readLinesFS fs (d + 1) s = readLinesFS fs d s := by
  intro d
  induction d with
  | zero =>
    intro s h
    have hn : ∀ l ∈ readLines s, l.incl = none := by
      intro l hl
      simp only [readLinesFS, resolved, List.all_map, List.all_eq_true] at h
      have := h l hl
      cases hi : l.incl with
      | none => rfl
      | some f => simp [hi, Item.line?] at this
    rw [readLinesFS_plain fs 1 s hn, readLinesFS_plain fs 0 s hn]
  | succ d ih =>
    intro s h
    simp only [readLinesFS, resolved, List.all_flatMap] at h ⊢
    rw [List.flatMap_def, List.flatMap_def]
    refine congrArg _ (List.map_congr_left fun l hl => ?_)
    have hl' := List.all_eq_true.1 h l hl
    cases hi : l.incl with
    | none => rfl
    | some f =>
      simp only [hi] at hl' ⊢
      cases hf : fs f with
      | none => rfl
      | some c =>
        simp only [hf] at hl' ⊢
        exact ih c hl'

/-! ## splitting, for the two readers -/

/-- Split invariance with the plain reader (no include directive followed): the hypothesis is `endBoundary`. -/
theorem split_invariance_plain {E : Type} (eng : Engine E) (hfree : eng.CallLocalFree) (hl : eng.lines = readLines)
    (w : W E) (hdb : w.dbLoaded = true) (a b : Bytes) (hcut : endBoundary a = true)
    (hrc : (w.run eng (.file (some (a ++ b)))).1.rc = 0) :
    ((w.run eng (.file (some a))).1.run eng (.file (some b))).1.rc = 0 ∧
    (w.run eng (.file (some (a ++ b)))).1.tables.map Row.data =
      ((w.run eng (.file (some a))).1.tables ++ ((w.run eng (.file (some a))).1.run eng (.file (some b))).1.tables).map Row.data ∧
    (w.run eng (.file (some (a ++ b)))).1.engine = ((w.run eng (.file (some a))).1.run eng (.file (some b))).1.engine := by
  obtain ⟨-, h2, h3, h4, -, -⟩ := split_invariance eng hfree w hdb a b (eng.boundary_of_endBoundary hl hcut) hrc
  exact ⟨h2, h3, h4⟩

/-- Split invariance when include directives are followed through a file system `fs`: the cut is taken in the top-level
    text, at an END boundary of the expanded line list. -/
theorem split_invariance_includes {E : Type} (eng : Engine E) (hfree : eng.CallLocalFree) (fs : Bytes → Option Bytes)
    (d : Nat) (hl : eng.lines = linesFS fs d) (w : W E) (hdb : w.dbLoaded = true) (a b : Bytes)
    (hcut : endBoundaryFS fs d a = true) (hrc : (w.run eng (.file (some (a ++ b)))).1.rc = 0) :
    ((w.run eng (.file (some a))).1.run eng (.file (some b))).1.rc = 0 ∧
    (w.run eng (.file (some (a ++ b)))).1.tables.map Row.data =
      ((w.run eng (.file (some a))).1.tables ++ ((w.run eng (.file (some a))).1.run eng (.file (some b))).1.tables).map Row.data ∧
    (w.run eng (.file (some (a ++ b)))).1.engine = ((w.run eng (.file (some a))).1.run eng (.file (some b))).1.engine := by
  obtain ⟨-, h2, h3, h4, -, -⟩ := split_invariance eng hfree w hdb a b (eng.boundary_of_endBoundaryFS hl hcut) hrc
  exact ⟨h2, h3, h4⟩

/-! ## non-vacuity -/


def bs (s : String) : Bytes := s.toUTF8.toList

/-- The examples open with `rw [bs_ofList]` (the unifier reads a string literal as `String.ofList _`): what the kernel
    would otherwise spend most on is `String.toUTF8.toList` of the literal, since `ByteArray.toList` runs by well-founded
    recursion and indexes the array anew at every step. -/
theorem bs_ofList (l : List Char) : bs (String.ofList l) = l.flatMap String.utf8EncodeChar := by
  simp [bs, byteArray_toList, String.ofList, List.utf8Encode]

/-- a toy engine: the state is the list of simulation sizes seen so far; every simulation punches one row whose only
    data cell is the number of lines; it does not read the call-local fields except for the `sim` stamp -/
def toy : Engine (List Nat) where
  simStep cl e t := ⟨e ++ [t.length], [⟨1, cl.simulation, [("lines", toString t.length)]⟩], 0, 0, 0⟩
  components e := e.map toString
  dump e := toString e
  fresh := []
  empty := []

theorem toy_free : toy.CallLocalFree := by
  intro cl cl' e t; simp [toy, Row.data]

/-- an engine that punches the simulation counter into a data cell is not call-local free … -/
def counting : Engine (List Nat) := { toy with
  simStep := fun cl e t => ⟨e ++ [t.length], [⟨1, cl.simulation, [("n", toString cl.simulation)]⟩], 0, 0, 0⟩ }

def textA : Bytes := bs "SOLUTION 1\n pH 7 # c;x\nEND\n"
def textB : Bytes := bs "USE solution 1; REACTION 1\n NaCl 1 \\  \n 0.1\nend\n"
def w0 : W (List Nat) := { dbLoaded := true, engine := [] }

example : endBoundary textA = true := by
  rw [textA, bs_ofList]
  decide +kernel
example : (simulations (textA ++ textB)).map List.length = [3, 4] := by
  rw [textA, textB, bs_ofList, bs_ofList]
  decide +kernel
example : simulations (textA ++ textB) = simulations textA ++ simulations textB :=
  simulations_append _ _ (by rw [textA, bs_ofList]; decide +kernel)
-- the reader's quirks: `;` inside a comment does not split, `\` + blanks + newline joins lines, CR LF is LF
example : logicalLines (bs "a # c;x\r\nb \\ \t\nc;d") = [bs "a # c;x", bs "b c", bs "d"] := by
  repeat rw [bs_ofList]
  decide +kernel
-- a comment that runs into the end of the input gets its last character doubled
example : logicalLines (bs "x # ab") = [bs "x # abb"] := by
  repeat rw [bs_ofList]
  decide +kernel
-- a cut inside a continuation is not a boundary, and the lines really differ there
example : closed (bs "NaCl 1 \\") = false := by
  rw [bs_ofList]
  decide +kernel
example : logicalLines (bs "NaCl 1 \\" ++ bs "\n0.1\n") ≠ logicalLines (bs "NaCl 1 \\") ++ logicalLines (bs "\n0.1\n") := by
  repeat rw [bs_ofList]
  decide +kernel
-- a cut between CR and LF is not a boundary either
example : closed (bs "END\r") = false := by decide +kernel
-- classification: keyword (case folded), option, plain
example : (readLines (bs "End\n-temp 25\n-1 x\nTitle\n")).map (fun l => (l.isKey, l.isEnd, l.ltype == .option)) =
    [(true, true, false), (false, false, true), (false, false, false), (true, false, false)] := by
  rw [bs_ofList]
  decide +kernel

-- split invariance instantiated: one call vs two calls on the toy engine
example :
    let one := (w0.run toy (.file (some (textA ++ textB)))).1
    let w1 := (w0.run toy (.file (some textA))).1
    let two := (w1.run toy (.file (some textB))).1
    one.rc = 0 ∧ one.tables.map Row.data = (w1.tables ++ two.tables).map Row.data ∧ one.engine = two.engine ∧
      one.tables.map (·.sim) = [1, 2] ∧ (w1.tables ++ two.tables).map (·.sim) = [1, 1] := by
  rw [textA, textB, bs_ofList, bs_ofList]
  decide +kernel

-- … and for the counting engine the conclusion fails: the hypothesis of `split_invariance` is needed
example :
    let one := (w0.run counting (.file (some (textA ++ textB)))).1
    let w1 := (w0.run counting (.file (some textA))).1
    let two := (w1.run counting (.file (some textB))).1
    one.tables.map Row.data ≠ (w1.tables ++ two.tables).map Row.data := by
  rw [textA, textB, bs_ofList, bs_ofList]
  decide +kernel

-- accumulate: lines, run, then the next AccumulateLine starts from empty; RunAccumulated twice reruns the same text
example :
    let w := [bs "SOLUTION 1", bs "END"].foldl W.accumulateLine w0
    w.getAccumulatedLines = bs "SOLUTION 1\nEND\n" ∧
    (w.run toy .accumulated).1.getAccumulatedLines = bs "SOLUTION 1\nEND\n" ∧
    (((w.run toy .accumulated).1.accumulateLine (bs "END")).getAccumulatedLines = bs "END\n") ∧
    (((w.run toy .accumulated).1.run toy .accumulated).1.engine = [2, 2]) := by
  repeat rw [bs_ofList]
  decide +kernel

-- three pieces through the three entry points against one call
example :
    let ds : List Delivery := [.acc [bs "SOLUTION 1", bs " pH 7 # c;x\nEND"], .str textB]
    let last : Delivery := .file (bs "END\n")
    (∀ d ∈ ds, endBoundary d.text = true) ∧
    (W.deliverAll toy w0 (ds ++ [last])).2.1 = [0, 0, 0] ∧
    (W.deliverAll toy w0 (ds ++ [last])).1.engine = (w0.run toy (.file (some (textA ++ textB ++ bs "END\n")))).1.engine ∧
    (W.deliverAll toy w0 (ds ++ [last])).1.engine = [3, 4, 1] := by
  rw [textA, textB]
  repeat rw [bs_ofList]
  decide +kernel

-- include files: the directive is replaced by the lines of the file (nested once more), a missing file is reported, the
-- last line of a file without newline stays a line of its own, and a cut of the top-level text behind the directive is a boundary
def fsEx : Bytes → Option Bytes := fun n =>
  if n = bs "inc1" then some (bs "SOLUTION 2\nINCLUDE$ inc2\nEND") else if n = bs "inc2" then some (bs " pH 6 # c") else none
def textI : Bytes := bs "SOLUTION 1\ninclude$  inc1 \nEND\n"
example : (readLinesFS fsEx 2 textI).map (fun i => (i.line?.map (·.line))) =
    [some (bs "SOLUTION 1"), some (bs "SOLUTION 2"), some (bs " pH 6 "), some (bs "END"), some (bs "END")] := by
  unfold fsEx
  rw [textI]
  repeat rw [bs_ofList]
  decide +kernel
example : readLinesFS fsEx 3 textI = readLinesFS fsEx 2 textI := include_depth_mono fsEx 2 textI (by
  unfold fsEx
  rw [textI]
  repeat rw [bs_ofList]
  decide +kernel)
example : resolved (readLinesFS fsEx 1 textI) = false ∧ resolved (readLinesFS fsEx 2 (bs "INCLUDE$ nofile\n")) = false := by
  unfold fsEx
  rw [textI]
  repeat rw [bs_ofList]
  decide +kernel
example : (simulationsFS fsEx 2 (textI ++ textB)).map List.length = [4, 1, 4] ∧ endBoundaryFS fsEx 2 textI = true := by
  unfold fsEx
  rw [textI, textB]
  repeat rw [bs_ofList]
  decide +kernel
example : simulationsFS fsEx 2 (textI ++ textB) = simulationsFS fsEx 2 textI ++ simulationsFS fsEx 2 textB :=
  simulationsFS_append fsEx 2 textI textB (by
    unfold fsEx
    rw [textI]
    repeat rw [bs_ofList]
    decide +kernel)
-- the toy engine reading through that file system: one call vs two calls
example :
    let eng : Engine (List Nat) := { toy with lines := linesFS fsEx 2 }
    (w0.run eng (.file (some (textI ++ textB)))).1.engine = [4, 1, 4] ∧
    ((w0.run eng (.file (some textI))).1.run eng (.file (some textB))).1.engine = [4, 1, 4] := by
  unfold fsEx
  rw [textI, textB]
  repeat rw [bs_ofList]
  decide +kernel

-- without a database RunString returns 1
example : ((({ engine := [] } : W (List Nat)).run toy (.str textA)).2 = 1) := by decide +kernel


end PhreeqcVerif.C04
