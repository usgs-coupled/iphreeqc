import PhreeqcVerif.Lemmas.Inverse
/-!
# C18 — every reported inverse model is a genuine, admissible mole-balance model

Theorems about `Model/Inverse.lean` (the model of `setup_inverse`, `tidy_inverse`, `solve_inverse`, `minimal_solve`,
`range`), for every problem, model and tolerance: what the rows and sign constraints of the matrix say of a vector that
satisfies them, that the bounds are the declared uncertainties, the executable checks run on every reported model of the
real code against their declarative clauses, the subset search under `-minimal` for any LP oracle that is exact
(`OracleOK`), and the optima of the range LPs against the reported value.
-/
namespace PhreeqcVerif.Inverse
open Problem

/-! ## checkModel -/

/-- the executable check used on every reported model of the real code implies the declarative `Admissible` -/
theorem checkModel_sound (p : Problem) (t : Rat) (m : Model) (h : p.checkModel t m = true) : p.Admissible t m :=
  (checkModel_iff p t m).1 h

/-- the check is also complete: it accepts every admissible model (so a rejection is a real counterexample) -/
theorem checkModel_complete (p : Problem) (t : Rat) (m : Model) (h : p.Admissible t m) : p.checkModel t m = true :=
  (checkModel_iff p t m).2 h

/-! ## the matrix -/

/-- any vector satisfying the equalities, inequalities and sign constraints that `setupMatrix`/`signOf` encode (what cl1
    returns with kode = 0) decodes to a model with exact mole balance for every element row, adjustments within the
    bounds, non-negative mixing fractions, final fraction 1 and the dissolve / precipitate constraints -/
theorem matrix_encodes_admissible (p : Problem) (x mn mx : Var → Rat) (h : p.Satisfies x) :
    p.Balanced 0 (decode x mn mx) := by
  have hsg := h.2.2
  refine ⟨?_, ?_, ?_, ?_, ?_, ?_, ?_⟩
  · intro e he
    rw [← eval_mbRow, decode_assign, h.1 _ (mbRow_mem p e he)]
    exact absR_zero ▸ Rat.le_refl
  · intro q e hq he ha
    have hrows := epsRows_mem p q e hq he
    rw [Problem.epsRows, if_pos ha] at hrows
    simpa only [decode, Rat.one_mul, Rat.neg_mul, Rat.neg_neg, Rat.add_zero] using
      (h.le_two (hrows _ List.mem_cons_self)).1
  · intro q e hq he ha
    constructor
    · intro hT
      have hs : p.signOf (Var.eps e q) > 0 := by simp [Problem.signOf, ha, hT]
      exact (hsg _ (eps_mem_vars p e q he hq)).1 hs
    · intro hT
      have hrows := epsRows_mem p q e hq he
      rw [Problem.epsRows, if_pos ha, if_neg hT] at hrows
      rw [Rat.add_zero]
      exact le_of_scaled_row (lowScale_pos p q e) (h.le_two (hrows _ (List.mem_cons_of_mem _ List.mem_cons_self))).2
  · intro q hq
    have hs : p.signOf (Var.soln q) > 0 := by simp [Problem.signOf, hq]
    exact (hsg _ (soln_mem_vars p q (by omega))).1 hs
  · have := h.1 _ (fractRow_mem p)
    simp only [Problem.fractRow, Row.eval, List.map_cons, List.map_nil, sumR, Rat.add_zero, Rat.one_mul] at this
    show absR (x (.soln (p.ns - 1)) - 1) ≤ 0
    rw [this, Rat.sub_self]
    exact absR_zero ▸ Rat.le_refl
  · intro i hi hc
    exact (hsg _ (phase_mem_vars p i hi)).1 hc
  · intro i hi hc
    exact (hsg _ (phase_mem_vars p i hi)).2 hc

/-- with the reported ranges bracketing the values the decoded model is admissible in the sense of the property -/
theorem matrix_encodes_admissible_range (p : Problem) (x mn mx : Var → Rat) (h : p.Satisfies x)
    (hr : p.range = true → p.InRange 0 (decode x mn mx)) : p.Admissible 0 (decode x mn mx) :=
  ⟨matrix_encodes_admissible p x mn mx h, hr⟩

/-- the bound used for an active adjustment is the declared uncertainty: `u·|T|` for a relative, `-u` for an
    absolute uncertainty; the bound in the negative direction exceeds it by at most `toler` -/
theorem adjustment_within_declared (p : Problem) (q e : Nat) (htol : 0 ≤ p.tol) (ha : p.active q e = true) :
    p.bound q e = p.rawBound q e ∧
    p.rawBound q e = (if p.unc q e ≤ 0 then -(p.unc q e) else absR (p.T q e * p.unc q e)) ∧
    p.lowBound q e ≤ p.bound q e + p.tol :=
  ⟨(bound_of_active p q e ha).1, rfl, lowBound_le p q e htol ha⟩

/-- mole balance in the textbook form: with adjustments `δ_qe = ε_qe / α_q` for the solutions that take part
    (α_q ≠ 0) the residual is `Σ_q ±α_q (T_qe + δ_qe) + Σ ν x + Σ ρ r` -/
theorem mbRes_delta_form (p : Problem) (m : Model) (e : Nat) (δ : Nat → Rat)
    (hδ : ∀ q, q < p.ns → p.epsCoef q e (p.sgn q) * m.eps e q = p.sgn q * (m.alpha q * δ q)) :
    p.mbRes m e =
      sumR ((rng p.ns).map fun q => p.sgn q * (m.alpha q * (p.T q e + δ q))) +
      sumR ((rng p.np).map fun i => p.nu i e * m.x i) + sumR ((rng p.nr).map fun k => p.rho k e * m.r k) := by
  unfold Problem.mbRes
  -- term by term `±α (T + δ) = ±T α + ±(α δ)`, and the second summands are the epsilon terms
  rw [List.map_congr_left (l := rng p.ns) fun q hq => hδ q (mem_rng.1 hq),
    List.map_congr_left (l := rng p.ns) (f := fun q => p.sgn q * (m.alpha q * (p.T q e + δ q)))
      (g := fun q => p.sgn q * p.T q e * m.alpha q + p.sgn q * (m.alpha q * δ q)) fun q _ => by
        rw [Rat.mul_add, Rat.mul_add, Rat.mul_comm (m.alpha q) (p.T q e), Rat.mul_assoc],
    sumR_map_add]
  ac_rfl

/-! ## the search -/

/-- under `-minimal`, for any LP oracle that is exact (`OracleOK`) and any order in which the masks are tried, no reported
    model's set contains another one's -/
theorem minimal_antichain_fold (o : Oracle) (c : SearchCfg) (h : OracleOK o c.nbits) (hmin : c.minimal = true)
    (hn : 0 < c.nbits) (masks : List Nat) (st0 : SState)
    (h0 : st0.good = [] ∧ st0.bad = [] ∧ st0.minimal = [] ∧ st0.reported = []) :
    Antichain (masks.foldl (step o c) st0).reported :=
  (List.foldlRecOn masks (step o c) (Inv.init o st0 h0) fun st hi cur _ => step_inv h hmin st cur hi).antichain

/-- the same for the masks in the order of `solve_inverse` -/
theorem minimal_antichain (o : Oracle) (c : SearchCfg) (h : OracleOK o c.nbits) (hmin : c.minimal = true)
    (hn : 0 < c.nbits) : Antichain (search o c).reported :=
  (search_inv h hmin).antichain

/-- an antichain in the sense of the property: no reported set strictly contains another one -/
theorem antichain_no_strict_superset (l : List Nat) (h : Antichain l) (i j : Nat) (hi : i < l.length) (hj : j < l.length)
    (hij : i ≠ j) : ¬ (subsetOf l[i] l[j] = true ∧ l[i] ≠ l[j]) := by
  unfold Antichain at h
  rw [List.pairwise_iff_getElem] at h
  intro ⟨hs, _⟩
  rcases Nat.lt_or_gt_of_ne hij with hlt | hgt
  · exact Bool.false_ne_true ((h i j hi hj hlt).1.symm.trans hs)
  · exact Bool.false_ne_true ((h j i hj hi hgt).2.symm.trans hs)

/-! ## ranges -/

/-- `range()`: the minimum is the solution of "minimise |x_v + R|", the maximum of "minimise |x_v - R|" over a
    feasible set `F` that contains the reported model `x`; if |x_v| ≤ R the two optima bracket the reported value -/
theorem range_contains_value (F : (Var → Rat) → Prop) (x ymin ymax : Var → Rat) (v : Var) (R : Rat)
    (hx : F x) (hlo : -R ≤ x v) (hhi : x v ≤ R)
    (hmin : ∀ z, F z → absR (ymin v + R) ≤ absR (z v + R))
    (hmax : ∀ z, F z → absR (ymax v - R) ≤ absR (z v - R)) :
    ymin v ≤ x v ∧ x v ≤ ymax v :=
  ⟨argmin_le F x ymin v R hx hlo hmin, le_argmax F x ymax v R hx hhi hmax⟩

/-- the objective row written by `range()` (coefficient 1 in column `v`, right-hand side ∓range_max) has the L1
    residual |x_v ∓ R| -/
theorem range_objective (x : Var → Rat) (v : Var) (R : Rat) :
    absR ((Row.eval x { kind := .opt, coeffs := [(v, 1)], rhs := R }) - R) = absR (x v - R) := by
  simp only [Row.eval, List.map_cons, List.map_nil, sumR, Rat.one_mul, Rat.add_zero]

/-! ## isotopes -/

/-- the executable isotope check implies the declarative isotope clauses -/
theorem checkIso_sound (p : Problem) (t : Rat) (m : Model) (h : p.checkIso t m = true) : p.IsoBalanced t m := by
  simp only [Problem.checkIso, Bool.and_eq_true, List.all_eq_true, mem_rng, decide_eq_true_eq] at h
  obtain ⟨⟨hmb, hsol⟩, hph⟩ := h
  refine ⟨hmb, fun q k si hq hk hsi => ?_, fun i pi n hi hmem hne => ?_⟩
  · have := hsol q hq k hk
    rw [hsi] at this
    simpa only [Bool.and_eq_true, decide_eq_true_eq] using this
  · have := Bool.or_eq_true_iff.1 (hph i hi (pi, n) hmem)
    simpa only [Bool.and_eq_true, not_or_eq_true, decide_eq_true_eq] using
      this.resolve_left fun h0 => hne (beq_iff_eq.1 h0)

/-- any vector satisfying the rows of `setupMatrix` satisfies the isotope clauses exactly: isotope balances, solution
    isotope ratios adjusted within their uncertainty, phase isotope ratios within theirs -/
theorem satisfies_isoBalanced (p : Problem) (x mn mx : Var → Rat) (h : p.Satisfies x) : p.IsoBalanced 0 (decode x mn mx) := by
  refine ⟨?_, ?_, ?_⟩
  · intro n hn
    rw [decode_assign, h.1 _ (isoRow_mem p n hn)]
    exact absR_zero ▸ Rat.le_refl
  · intro q k si hq hk hsi
    have hrows := isoIneq_mem p q k hq hk
    rw [Problem.isoIneqRows, hsi] at hrows
    have h1 := (h.le_two (hrows _ List.mem_cons_self)).1
    have h2 := (h.le_two (hrows _ (List.mem_cons_of_mem _ List.mem_cons_self))).1
    simpa only [decode, Rat.one_mul, Rat.neg_mul, Rat.neg_neg, Rat.add_zero] using And.intro h1 h2
  · intro i pi n hi hmem hne
    -- the rows that `phisoIneqRows` writes for the datum `(pi, n)`
    have hrows : ∀ r ∈ _, r ∈ p.leRows := fun r hr => phisoIneq_mem p i hi r (List.mem_flatMap.2 ⟨(pi, n), hmem, hr⟩)
    simp only [if_neg hne] at hrows
    constructor
    · intro hc
      rw [if_pos hc] at hrows
      have h1 := (h.le_two (hrows _ List.mem_cons_self)).2
      have h2 := (h.le_two (hrows _ (List.mem_cons_of_mem _ List.mem_cons_self))).2
      simpa only [decode, Rat.one_mul, Rat.neg_mul, Rat.neg_neg, Rat.add_zero] using And.intro h1 h2
    · intro hc
      rw [if_neg (by omega), if_pos hc] at hrows
      have h1 := (h.le_two (hrows _ List.mem_cons_self)).2
      have h2 := (h.le_two (hrows _ (List.mem_cons_of_mem _ List.mem_cons_self))).2
      simpa only [decode, Rat.one_mul, Rat.neg_mul, Rat.neg_neg, Rat.add_zero] using And.intro h2 h1

/-! ## feasibility of the reported vector, range LPs -/

/-- the executable feasibility test is sound (tolerance 0 = exact) -/
theorem satB_sound (p : Problem) (x : Var → Rat) (h : p.satB 0 x = true) : p.Satisfies x := by
  simp only [Problem.satB, Bool.and_eq_true, List.all_eq_true, not_or_eq_true, decide_eq_true_eq, Rat.add_zero] at h
  obtain ⟨⟨heq, hle⟩, hsg⟩ := h
  exact ⟨fun r hr => Lean.Grind.AddCommGroup.sub_eq_zero_iff.1 (absR_le_zero (heq r hr)), hle, hsg⟩

theorem zeroOutsideB_sound (p : Problem) (mask : Nat) (x : Var → Rat) (h : p.zeroOutsideB 0 mask x = true) :
    p.ZeroOutside mask x := by
  simp only [Problem.zeroOutsideB, List.all_eq_true, Bool.or_eq_true, decide_eq_true_eq] at h
  intro v hv hm
  exact absR_le_zero ((h v hv).resolve_left fun h1 => Bool.false_ne_true (hm.symm.trans h1))

/-- `range()`: whenever the reported vector is feasible for the LP of its (mask ∪ forced) and |value| ≤ range_max, the true
    optima of the two range LPs bracket the reported value -/
theorem range_brackets_feasible_model (p : Problem) (mask : Nat) (x ymin ymax : Var → Rat) (v : Var) (R : Rat)
    (hx : p.Feasible mask x) (hlo : -R ≤ x v) (hhi : x v ≤ R)
    (hmin : ∀ z, p.Feasible mask z → absR (ymin v + R) ≤ absR (z v + R))
    (hmax : ∀ z, p.Feasible mask z → absR (ymax v - R) ≤ absR (z v - R)) :
    ymin v ≤ x v ∧ x v ≤ ymax v :=
  range_contains_value _ x ymin ymax v R hx hlo hhi hmin hmax

/-- the proved criterion behind the finding `range-silent`: a reported minimum above (maximum below) the value of a
    feasible reported model is NOT an optimum of the range LP -/
theorem range_silent_criterion (p : Problem) (mask : Nat) (x y : Var → Rat) (v : Var) (R : Rat)
    (hx : p.Feasible mask x) (hlo : -R ≤ x v) (hhi : x v ≤ R) :
    (x v < y v → ¬ ∀ z, p.Feasible mask z → absR (y v + R) ≤ absR (z v + R)) ∧
    (y v < x v → ¬ ∀ z, p.Feasible mask z → absR (y v - R) ≤ absR (z v - R)) :=
  ⟨fun hlt hopt => Rat.not_le.2 hlt (argmin_le _ x y v R hx hlo hopt),
   fun hlt hopt => Rat.not_le.2 hlt (le_argmax _ x y v R hx hhi hopt)⟩

/-- a vector satisfies `rangeLP` (all rows but the objective) exactly when it satisfies the problem rows -/
theorem rangeLP_rows (p : Problem) (v : Var) (t : Rat) (r : Row) :
    r ∈ p.rangeLP v t ↔ r = { kind := .opt, coeffs := [(v, 1)], rhs := t } ∨ r ∈ p.eqRows ∨ r ∈ p.leRows := by
  simp [Problem.rangeLP]

/-! ## declared uncertainties (tidy_inverse) -/

/-- tidy_inverse: a `-balances` entry that names a redox ELEMENT reaches EVERY valence-state row of that element
    (unless a later element-wide entry for the same element or an entry for that very row replaces it) -/
theorem element_entry_reaches_all_rows (rows : List RowId) (dflt : List Rat) (pre post : List BalEntry) (p : Nat)
    (unc : List Rat) (i : Nat) (hi : i < rows.length) (hp : (rows.getD i default).primary = p)
    (hpost : ∀ en ∈ post, en.target ≠ .element p)
    (hrow : ∀ en ∈ pre ++ ⟨.element p, unc⟩ :: post, ∀ m, en.target = .row m → i ≠ rows.findIdx (fun r => r.master = m)) :
    propagateUnc rows dflt (pre ++ ⟨.element p, unc⟩ :: post) i = unc := by
  subst hp
  unfold propagateUnc
  rw [foldl_stepRow_other rows _ _ i hrow, List.foldl_append, List.foldl_cons, foldl_stepElem_other rows post _ i hpost]
  exact if_pos ⟨rfl, hi⟩

/-- rows that no entry names keep the global -uncertainty list -/
theorem unnamed_row_keeps_default (rows : List RowId) (dflt : List Rat) (es : List BalEntry) (i : Nat)
    (hel : ∀ en ∈ es, en.target ≠ .element (rows.getD i default).primary)
    (hrow : ∀ en ∈ es, ∀ m, en.target = .row m → i ≠ rows.findIdx (fun r => r.master = m)) :
    propagateUnc rows dflt es i = dflt := by
  unfold propagateUnc
  rw [foldl_stepRow_other rows _ _ i hrow, foldl_stepElem_other rows es _ i hel]

/-- non-vacuity: Fe(2), Fe(3) (rows 0, 1 of element 7) and Ca (row 2); "Fe 0.02" reaches both valence states -/
example : (List.range 3).map (propagateUnc [⟨10, 7⟩, ⟨11, 7⟩, ⟨12, 12⟩] [1/20, 1/20] [⟨.element 7, [1/50, 1/50]⟩, ⟨.row 11, [1/10, 1/10]⟩]) =
    [[1/50, 1/50], [1/10, 1/10], [1/20, 1/20]] := by decide +kernel
example : padUnc 3 [1/20, 1/100] [1/2, 1/2, 1/2] = [1/20, 1/100, 1/100] ∧ padUnc 3 [] [1/2, 1/2, 1/2] = [1/2, 1/2, 1/2] := by
  decide +kernel

/-! ## non-vacuity -/

/-- one element (Ca, 5 % uncertainty), two solutions (1 mmol → 3 mmol), one dissolve-only phase with one Ca -/
def exProblem : Problem :=
  { solns := [{ totals := [1/1000], water := 55, phUnc := 1/20, dalkDph := 0, dalkDc := 0 },
              { totals := [3/1000], water := 55, phUnc := 1/20, dalkDph := 0, dalkDc := 0 }],
    elts := [{ isE := false, isAlkM := false, alkName := false, zalk := 2, unc := [1/20, 1/20] }],
    phases := [{ stoich := [1], water := 0, constr := 1, force := false }],
    redox := [], tol := 1/10000000000, mineralWater := true, waterUnc := 0, carbon := false, iAlk := 0, iCarb := none,
    range := true }

def exModel : Model :=
  { alpha := fun _ => 1, x := fun _ => 2/1000, r := fun _ => 0, eps := fun _ _ => 0, ph := fun _ => 0, water := 0,
    minA := fun _ => 1, maxA := fun _ => 1, minX := fun _ => 18/10000, maxX := fun _ => 22/10000 }

/-- the exact model (2 mmol dissolve) is accepted, hence admissible; a model with the wrong sign or a wrong
    amount is rejected -/
example : exProblem.checkModel 0 exModel = true := by decide +kernel
example : exProblem.Admissible 0 exModel := checkModel_sound _ _ _ (by decide +kernel)
example : exProblem.checkModel 0 { exModel with x := fun _ => -2/1000 } = false := by decide +kernel
example : exProblem.checkModel 0 { exModel with x := fun _ => 25/10000 } = false := by decide +kernel
/-- 2.1 mmol is admissible only with an adjustment of the final solution inside its 5 % -/
example : exProblem.checkModel 0 { exModel with x := fun _ => 21/10000, eps := fun _ q => if q = 1 then 1/10000 else 0 } = true := by
  decide +kernel
/-- the matrix of the example has the rows of setup_inverse: 5 optimisation, 1 mole balance, water, final fraction,
    2 charge, 2 dAlk, 4 epsilon inequalities -/
example : exProblem.setupMatrix.length = 16 := by decide +kernel
example : (exProblem.mbRow 0).coeffs =
    [(Var.soln 0, 1/1000), (Var.soln 1, -3/1000), (Var.phase 0, 1), (Var.eps 0 0, 1), (Var.eps 0 1, -1)] := by decide +kernel

/-- search: a concrete exact oracle (2 phases, 2 solutions) for which the hypotheses hold and two incomparable
    minimal models are reported -/
example : Antichain (search exOracle exCfg).reported := minimal_antichain _ _ exOracle_ok rfl (by decide)
example : (search exOracle exCfg).reported = [9, 10] := search_exOracle

/-- non-vacuity: one requested isotope (13C of element C, row 0 = C(4)), one solution datum and one dissolving phase;
    the isotope row has the terms of isotope_balance_equation -/
def exIso : Problem :=
  { exProblem with
    rowNames := ["C(4)"], isos := [{ name := "C", prim := "C", number := 13, isHO := false }],
    isoUnk := [{ master := "C(4)", number := 13 }],
    solIso := [[{ master := "C(4)", prim := "C", number := 13, total := 1/1000, ratio := -7, xunc := 1 }],
               [{ master := "C(4)", prim := "C", number := 13, total := 3/1000, ratio := -2, xunc := 1/2 }]],
    phIso := [[{ name := "C", prim := "C", number := 13, ratio := 1, coef := 1, unc := 2 }]] }
example : (exIso.isoRow 0).coeffs =
    [(Var.soln 0, -7/1000), (Var.eps 0 0, -7), (Var.iso 0 0, 1/1000),
     (Var.soln 1, 6/1000), (Var.eps 0 1, 2), (Var.iso 1 0, -3/1000),
     (Var.phase 0, 1), (Var.phiso 0 0, 1)] := by decide +kernel
example : exIso.setupMatrix.length = 16 + 3 + 1 + 4 + 2 := by decide +kernel

end PhreeqcVerif.Inverse
