import PhreeqcVerif.Lemmas.Thermo
import PhreeqcVerif.Gen.SpeciationSrc
import Mathlib.Tactic.LinearCombination
/-!
# C01 — speciation: property theorems

The number type is `Rat` with `ratOps f` for an ARBITRARY `f : TransFns Rat` (`log10`, `ln`, `sqrt`, `exp10` uninterpreted);
the theorems hold for all inputs, token lists of any length, any fuel.

* `kCalc` (model of `k_calc`) is linear in the log K vector, reduces to the 1 atm expression at `P ≤ pRef`, to `log_k`
  at 25 °C, to van 't Hoff without analytic terms; `delta_h` unit conversion; named expressions
  (`select_log_k_expression`, `add_other_logk`, `add_logks`).
* `rewriteToMasters` (substitution of non-master species, `trxn_add` + `trxn_combine`) preserves the residual of the
  mass-action equation for every linear log K functional, and element/charge balance.
* `speciateLm` (the assignment in `molalities()`) satisfies mass action; `under()`.
* the gate: `runModel` returns `ok` only in states where `residuals()` reports CONVERGED and `check_residuals()` is silent,
  whatever the Newton step / "try again" decisions are; what the tests mean per unknown type.
* sums of `sum_species` with the valence totals, read-outs; concrete instances.
* the constants of the C++ source (`Gen/SpeciationSrc.lean`, regenerated on every run) are the model's; `calc_alk`
  lookup order.
-/
namespace PhreeqcVerif.C01
open PhreeqcVerif PhreeqcVerif.Thermo PhreeqcVerif.Speciation

/-! ### log K(T, P) -/

/-- `trxn_add` on the log K vector is `k_calc`-linear (both branches of the pressure test) -/
theorem kCalc_addScaled (f : TransFns Rat) (p q : LogK Rat) (c T P : Rat) :
    letI := ratOps f
    kCalc (p.addScaled c q) T P = kCalc p T P + c * kCalc q T P := by
  simp only [kCalc_eq_dot, LogK.addScaled_eq, LogK.dot_add, LogK.dot_smul]

theorem kCalc_linear (f : TransFns Rat) (p q : LogK Rat) (a b T P : Rat) :
    letI := ratOps f
    kCalc ((LogK.smul a p).add (LogK.smul b q)) T P = a * kCalc p T P + b * kCalc q T P := by
  simp only [kCalc_eq_dot, LogK.dot_add, LogK.dot_smul]

theorem kCalc_smul (f : TransFns Rat) (r : Rat) (k : LogK Rat) (T P : Rat) :
    letI := ratOps f
    kCalc (LogK.smul r k) T P = r * kCalc k T P := by
  simp only [kCalc_eq_dot, LogK.dot_smul]

theorem kCalc_pressure_off (f : TransFns Rat) (p : LogK Rat) (T P : Rat) (hP : P ≤ pRef) :
    letI := ratOps f
    kCalc p T P = kCalc1atm p T :=
  if_neg (not_lt.mpr (sub_nonpos.mpr hP))

theorem vant_hoff (f : TransFns Rat) (k0 dh dv T : Rat) :
    letI := ratOps f
    kCalc1atm ⟨k0, dh, 0, 0, 0, 0, 0, 0, dv⟩ T = k0 - dh * (tRef - T) / (f.ln 10 * (T * rKJ) * tRef) := by
  simp only [kCalc1atm, rat_ops]
  ring

theorem kCalc_reference (f : TransFns Rat) (k0 dh dv P : Rat) (hP : P ≤ pRef) :
    letI := ratOps f
    kCalc ⟨k0, dh, 0, 0, 0, 0, 0, 0, dv⟩ tRef P = k0 := by
  rw [kCalc_pressure_off f _ _ _ hP, vant_hoff, sub_self, mul_zero, zero_div, sub_zero]

theorem dhToKJ_linear (f : TransFns Rat) (u : DHUnit) (a x : Rat) :
    letI := ratOps f
    dhToKJ u (a * x) = a * dhToKJ u x := by
  cases u <;> simp only [dhToKJ, rat_ops] <;> ring

theorem dhToKJ_kcal (f : TransFns Rat) (x : Rat) :
    letI := ratOps f
    dhToKJ .kcal x = x * (4184 / 1000) := by
  simp only [dhToKJ, rat_ops]

theorem dhToKJ_cal (f : TransFns Rat) (x : Rat) :
    letI := ratOps f
    dhToKJ .cal x = x * (4184 / 1000000) := by
  simp only [dhToKJ, rat_ops]
  ring

theorem dhToKJ_J (f : TransFns Rat) (x : Rat) :
    letI := ratOps f
    dhToKJ .J x = x / 1000 := by
  simp only [dhToKJ, rat_ops]

/-- non-vacuity: above the reference pressure the volume term is present (so `P ≤ pRef` in `kCalc_pressure_off` matters),
at it the 1 atm value is returned, and linearity on concrete vectors (with `ln := id`, i.e. `ln 10 = 10`) -/
example : letI := ratOps (⟨id, id, id, id, id, id, id, id, id, id⟩ : TransFns Rat)
    let p : LogK Rat := ⟨10329 / 1000, -3561 / 1000, 1078871 / 10000, 3252849 / 100000000, -515179 / 100, -3892561 / 100000, 56371390 / 100, 0, -278 / 10⟩
    let q : LogK Rat := ⟨6352 / 1000, -2177 / 1000, 0, 0, 0, 0, 0, 0, 2627 / 100⟩
    kCalc p 300 (2 * pRef) ≠ kCalc1atm p 300 ∧ kCalc p 300 pRef = kCalc1atm p 300 ∧
    kCalc (p.addScaled 2 q) 300 (2 * pRef) = kCalc p 300 (2 * pRef) + 2 * kCalc q 300 (2 * pRef) ∧
    kCalc q tRef pRef = 6352 / 1000 ∧ kCalc q 300 pRef ≠ 6352 / 1000 := by
  decide +kernel

/-! ### named expressions: `select_log_k_expression`, `add_other_logk`, `add_logks` -/

theorem nz_iff (f : TransFns Rat) (x : Rat) : letI := ratOps f; nz x = true ↔ x ≠ 0 := by
  simp only [nz, Bool.or_eq_true, decide_eq_true_eq]
  exact lt_or_lt_iff_ne

theorem analytic_zero (f : TransFns Rat) (k0 dh dv : Rat) :
    letI := ratOps f; (⟨k0, dh, 0, 0, 0, 0, 0, 0, dv⟩ : LogK Rat).analytic = false := by
  simp only [LogK.analytic, nz, rat_ops, lt_irrefl, decide_false, Bool.or_false]

theorem selectExpr_analytic (f : TransFns Rat) (p : LogK Rat) :
    letI := ratOps f; p.analytic = true → selectExpr p = ⟨0, 0, p.a1, p.a2, p.a3, p.a4, p.a5, p.a6, p.dv⟩ := by
  intro h
  simp only [selectExpr, h, if_true, rat_ops]

theorem selectExpr_plain (f : TransFns Rat) (p : LogK Rat) :
    letI := ratOps f; p.analytic = false → selectExpr p = ⟨p.k0, p.dh, 0, 0, 0, 0, 0, 0, p.dv⟩ := by
  intro h
  simp only [selectExpr, h, Bool.false_eq_true, if_false, rat_ops]

theorem selectExpr_idem (f : TransFns Rat) (p : LogK Rat) :
    letI := ratOps f; selectExpr (selectExpr p) = selectExpr p := by
  cases h : @LogK.analytic Rat (ratOps f) _ p with
  | true =>
    rw [selectExpr_analytic f p h]
    -- `analytic` looks at the six analytic entries only, which `selectExpr` keeps
    exact selectExpr_analytic f _ h
  | false =>
    rw [selectExpr_plain f p h]
    exact selectExpr_plain f _ (analytic_zero f _ _ _)

/-- an analytic expression switches `log_k` and `delta_h` off -/
theorem kCalc_selectExpr_analytic (f : TransFns Rat) (p : LogK Rat) (T P : Rat) :
    letI := ratOps f
    p.analytic = true → kCalc (selectExpr p) T P = kCalc ⟨0, 0, p.a1, p.a2, p.a3, p.a4, p.a5, p.a6, p.dv⟩ T P := by
  intro h; rw [selectExpr_analytic f p h]

theorem kCalc_selectExpr_plain (f : TransFns Rat) (p : LogK Rat) (T P : Rat) :
    letI := ratOps f
    p.analytic = false → kCalc (selectExpr p) T P = kCalc ⟨p.k0, p.dh, 0, 0, 0, 0, 0, 0, p.dv⟩ T P := by
  intro h; rw [selectExpr_plain f p h]

/-- `add_other_logk`: a named expression contributes `c` times the value of its SELECTED expression (any sign of `c`) -/
theorem kCalc_addOther (f : TransFns Rat) (src nm : LogK Rat) (c T P : Rat) :
    letI := ratOps f
    kCalc (addOther src nm c) T P = kCalc src T P + c * kCalc (selectExpr nm) T P := by
  rw [addOther_eq_addScaled, kCalc_addScaled]

theorem kCalc_addOther_zero (f : TransFns Rat) (src nm : LogK Rat) (T P : Rat) :
    letI := ratOps f
    kCalc (addOther src nm 0) T P = kCalc src T P := by
  rw [kCalc_addOther, zero_mul, add_zero]

/-- `add_logks` (named expression referring to named expressions): ALL entries are added -/
theorem kCalc_combineNamed (f : TransFns Rat) (own : LogK Rat) (adds : List (LogK Rat × Rat)) (T P : Rat) :
    letI := ratOps f
    kCalc (combineNamed own adds) T P
      = kCalc (selectExpr own) T P + (adds.map (fun nc => nc.2 * kCalc nc.1 T P)).sum := by
  unfold combineNamed
  generalize @selectExpr Rat (ratOps f) _ own = acc
  induction adds generalizing acc with
  | nil => exact (add_zero _).symm
  | cons x t ih => simp only [List.foldl_cons, List.map_cons, List.sum_cons, ih, kCalc_addScaled, add_assoc]

/-- log K of a species with `-add_logk` lines: own selected expression plus `c`·(selected named expression) each -/
theorem kCalc_combineLogK (f : TransFns Rat) (own : LogK Rat) (adds : List (LogK Rat × Rat)) (T P : Rat) :
    letI := ratOps f
    kCalc (combineLogK own adds) T P
      = kCalc (selectExpr own) T P + (adds.map (fun nc => nc.2 * kCalc (selectExpr nc.1) T P)).sum := by
  rw [combineLogK_eq_combineNamed, kCalc_combineNamed, List.map_map]
  rfl

/-- non-vacuity: a plain own expression, one analytic and one plain named expression (negative coefficient); the analytic
one contributes nothing of its `log_k` -/
example : letI := ratOps (⟨id, id, id, id, id, id, id, id, id, id⟩ : TransFns Rat)
    let own : LogK Rat := ⟨2, -3, 0, 0, 0, 0, 0, 0, 0⟩
    let n1 : LogK Rat := ⟨100, 50, 1, 1 / 100, 0, 0, 0, 0, 0⟩
    let n2 : LogK Rat := ⟨5, 7, 0, 0, 0, 0, 0, 0, 0⟩
    let r := combineLogK own [(n1, 2), (n2, -1)]
    n1.analytic = true ∧ n2.analytic = false ∧
    r.k0 = 2 - 5 ∧ r.dh = -3 - 7 ∧ r.a1 = 2 ∧ r.a2 = 2 / 100 ∧
    kCalc r tRef pRef = -3 + 2 + 2 / 100 * tRef ∧
    (combineNamed own [(n1, 2), (n2, -1)]).k0 = 2 + 200 - 5 := by
  decide +kernel

/-! ### linear algebra of token lists -/

theorem evalBody_append (f : TransFns Rat) (v : String → Rat) (a b : List (String × Rat)) :
    letI := ratOps f; evalBody v (a ++ b) = evalBody v a + evalBody v b :=
  Speciation.evalBody_append f v a b

theorem evalBody_scaleBody (f : TransFns Rat) (v : String → Rat) (c : Rat) (b : List (String × Rat)) :
    letI := ratOps f; evalBody v (scaleBody c b) = c * evalBody v b :=
  Speciation.evalBody_scaleBody f v c b

theorem evalBody_removeName (f : TransFns Rat) (v : String → Rat) (n : String) (b : List (String × Rat)) :
    letI := ratOps f; evalBody v (removeName n b) + coefOf n b * v n = evalBody v b :=
  Speciation.evalBody_removeName f v n b

theorem evalBody_addTerm (f : TransFns Rat) (v : String → Rat) (n : String) (c : Rat) (b : List (String × Rat)) :
    letI := ratOps f; evalBody v (addTerm n c b) = evalBody v b + c * v n :=
  Speciation.evalBody_addTerm f v n c b

theorem evalBody_mergeInto (f : TransFns Rat) (v : String → Rat) (acc b : List (String × Rat)) :
    letI := ratOps f; evalBody v (mergeInto acc b) = evalBody v acc + evalBody v b :=
  Speciation.evalBody_mergeInto f v acc b

/-- `trxn_combine` does not change the value of the linear form, provided `drop` only removes exact zeros -/
theorem evalBody_normalise (f : TransFns Rat) (v : String → Rat) (drop : Rat → Bool)
    (hdrop : ∀ c, drop c = true → c = 0) (b : List (String × Rat)) :
    letI := ratOps f; evalBody v (normalise drop b) = evalBody v b :=
  Speciation.evalBody_normalise f v drop hdrop b

/-- eliminating species `n` through its defining equation `d` adds `coef(n)` times the residual of `d` -/
theorem residual_substOne (f : TransFns Rat) (la : String → Rat) (K : LogK Rat → Rat)
    (hK : letI := ratOps f; ∀ (p q : LogK Rat) (c : Rat), K (p.addScaled c q) = K p + c * K q)
    (n : String) (d e : Eqn Rat) (hd : d.head = n) :
    letI := ratOps f
    residual la K (substOne n d e) = residual la K e + coefOf n e.body * residual la K d :=
  Speciation.residual_substOne f la K hK n d e hd

/-- `rewrite_master_to_secondary`: the pivoted equation is `pm − (c1/c2)·pm0` -/
theorem residual_pivot (f : TransFns Rat) (la : String → Rat) (K : LogK Rat → Rat)
    (hK : letI := ratOps f; ∀ (p q : LogK Rat) (c : Rat), K (p.addScaled c q) = K p + c * K q)
    (p : String) (pm pm0 : Eqn Rat) :
    letI := ratOps f
    (pivot p pm pm0).head = pm.head ∧
    residual la K (pivot p pm pm0)
      = residual la K pm - (coefOf p pm.body / coefOf p pm0.body) * residual la K pm0 := by
  refine ⟨rfl, ?_⟩
  simp only [residual, pivot, hK, Speciation.evalBody_append, Speciation.evalBody_scaleBody, evalBody_cons, rat_ops]
  ring

/-- solving an equation for a species with non-zero coefficient `c` scales its residual by `−1/c`: the electron equation
of a redox couple holds iff the pivoted couple equation does (`tidy_redox`: `trxn_swap("e-")`) -/
theorem residual_solveFor (f : TransFns Rat) (la : String → Rat) (K : LogK Rat → Rat)
    (hK : letI := ratOps f; ∀ (r : Rat) (k : LogK Rat), K (LogK.smul r k) = r * K k)
    (n : String) (e : Eqn Rat) (hc : letI := ratOps f; coefOf n e.body ≠ 0) :
    letI := ratOps f
    (solveFor n e).head = n ∧
    residual la K (solveFor n e) = (0 - 1 / coefOf n e.body) * residual la K e := by
  refine ⟨rfl, ?_⟩
  simp only [residual, solveFor, hK, Speciation.evalBody_scaleBody, evalBody_cons, rat_ops,
    ← Speciation.evalBody_removeName f la n e.body]
  -- the two sides differ by `la n · (1/c · c − 1)`
  linear_combination la n * one_div_mul_cancel hc

/-- the O(0)/O(-2) couple of phreeqc.dat: `2 H2O = O2 + 4 H+ + 4 e-` solved for `e-` -/
example : letI := ratOps (⟨id, id, id, id, id, id, id, id, id, id⟩ : TransFns Rat)
    let o2 : Eqn Rat := ⟨"O2", [("H2O", 2), ("H+", -4), ("e-", -4)], ⟨-8608 / 100, 0, 0, 0, 0, 0, 0, 0, 0⟩⟩
    let e := solveFor "e-" o2
    e.head = "e-" ∧ coefOf "O2" e.body = -1 / 4 ∧ coefOf "H+" e.body = -1 ∧ coefOf "H2O" e.body = 1 / 2
      ∧ e.k.k0 = -2152 / 100 := by
  decide +kernel

/-! ### rewriting to the masters in use preserves mass action and balance -/

/-- main statement: for every fuel, every list, every `K` that is linear for `addScaled` (e.g. `kCalc · T P`,
`kCalc_addScaled`): the rewritten equation has the same head and the same residual -/
theorem rewrite_residual_eq (f : TransFns Rat) (drop : Rat → Bool) (inUse : String → Bool)
    (defs : String → Option (Eqn Rat)) (la : String → Rat) (K : LogK Rat → Rat)
    (hK : letI := ratOps f; ∀ (p q : LogK Rat) (c : Rat), K (p.addScaled c q) = K p + c * K q)
    (hdrop : ∀ c, drop c = true → c = 0)
    (hdefs : letI := ratOps f; ∀ n d, defs n = some d → d.head = n ∧ residual la K d = 0)
    (fuel : Nat) (e e' : Eqn Rat) :
    letI := ratOps f
    rewriteToMasters drop inUse defs fuel e = some e' →
      e'.head = e.head ∧ residual la K e' = residual la K e := by
  intro h
  refine (rewrite_induction f drop inUse defs
    (fun x => x.head = e.head ∧ @residual Rat (ratOps f) la K x = @residual Rat (ratOps f) la K e)
    ?_ fuel e e' h ⟨rfl, rfl⟩).1
  intro e1 n d _ hd ⟨h1, h2⟩
  obtain ⟨hh, hr⟩ := hdefs n d hd
  refine ⟨h1, ?_⟩
  rw [residual_normalise f la K drop hdrop, Speciation.residual_substOne f la K hK n d e1 hh, hr, mul_zero, add_zero, h2]

theorem rewrite_mass_action_iff (f : TransFns Rat) (drop : Rat → Bool) (inUse : String → Bool)
    (defs : String → Option (Eqn Rat)) (la : String → Rat) (K : LogK Rat → Rat)
    (hK : letI := ratOps f; ∀ (p q : LogK Rat) (c : Rat), K (p.addScaled c q) = K p + c * K q)
    (hdrop : ∀ c, drop c = true → c = 0)
    (hdefs : letI := ratOps f; ∀ n d, defs n = some d → d.head = n ∧ residual la K d = 0)
    (fuel : Nat) (e e' : Eqn Rat) :
    letI := ratOps f
    rewriteToMasters drop inUse defs fuel e = some e' →
      (residual la K e' = 0 ↔ residual la K e = 0) := by
  intro h
  rw [(rewrite_residual_eq f drop inUse defs la K hK hdrop hdefs fuel e e' h).2]

/-- the special case `K := kCalc · T P` (any temperature, any pressure): the linearity hypothesis is `kCalc_addScaled` -/
theorem rewrite_mass_action_kCalc (f : TransFns Rat) (drop : Rat → Bool) (inUse : String → Bool)
    (defs : String → Option (Eqn Rat)) (la : String → Rat) (T P : Rat)
    (hdrop : ∀ c, drop c = true → c = 0)
    (hdefs : letI := ratOps f; ∀ n d, defs n = some d → d.head = n ∧ residual la (fun k => kCalc k T P) d = 0)
    (fuel : Nat) (e e' : Eqn Rat) :
    letI := ratOps f
    rewriteToMasters drop inUse defs fuel e = some e' →
      e'.head = e.head ∧ residual la (fun k => kCalc k T P) e' = residual la (fun k => kCalc k T P) e :=
  rewrite_residual_eq f drop inUse defs la _ (fun p q c => kCalc_addScaled f p q c T P) hdrop hdefs fuel e e'

theorem firstOut_none (inUse : String → Bool) (b : List (String × Rat)) :
    firstOut inUse b = none → ∀ p ∈ b, inUse p.1 = true := by
  fun_induction firstOut inUse b with
  | case1 => intro _ p hp; cases hp
  | case2 n c t hn ih =>   -- the head is in use: the scan goes on
    intro h p hp
    rcases List.mem_cons.mp hp with rfl | hp
    · exact hn
    · exact ih h p hp
  | case3 => intro h; cases h   -- the head is out of use: `some`

/-- a successful rewrite mentions only masters in use -/
theorem rewrite_only_masters (f : TransFns Rat) (drop : Rat → Bool) (inUse : String → Bool)
    (defs : String → Option (Eqn Rat)) (fuel : Nat) (e e' : Eqn Rat) :
    letI := ratOps f
    rewriteToMasters drop inUse defs fuel e = some e' → ∀ p ∈ e'.body, inUse p.1 = true :=
  fun h => firstOut_none inUse _
    (rewrite_induction f drop inUse defs (fun _ => True) (fun _ _ _ _ _ _ => trivial) fuel e e' h trivial).2

/-- `w` = number of atoms of one element in (or charge of) each species. If every defining equation is balanced, the
rewritten right-hand side carries the same amount as the original one; hence balanced iff balanced. -/
theorem rewrite_preserves_balance (f : TransFns Rat) (drop : Rat → Bool) (inUse : String → Bool)
    (defs : String → Option (Eqn Rat)) (w : String → Rat)
    (hdrop : ∀ c, drop c = true → c = 0)
    (hdefs : letI := ratOps f; ∀ n d, defs n = some d → d.head = n ∧ evalBody w d.body = w d.head)
    (fuel : Nat) (e e' : Eqn Rat) :
    letI := ratOps f
    rewriteToMasters drop inUse defs fuel e = some e' →
      evalBody w e'.body = evalBody w e.body ∧ (evalBody w e'.body = w e'.head ↔ evalBody w e.body = w e.head) := by
  intro h
  -- with `K := 0` and `la := w` the residual of an equation is its imbalance `Σ c·w(name) − w(head)`
  obtain ⟨h1, h2⟩ := rewrite_residual_eq f drop inUse defs w (fun _ => 0)
    (fun _ _ _ => by rw [mul_zero, add_zero]) hdrop
    (fun n d hd => ⟨(hdefs n d hd).1, by simp only [residual, (hdefs n d hd).2, zero_add, sub_self]⟩) fuel e e' h
  simp only [residual, h1, zero_add, sub_left_inj] at h2
  exact ⟨h2, by rw [h1, h2]⟩

/-- the saturation index does not depend on the form of the phase reaction: `e` carries the reversed log K of the
phase (`trxn_reverse_k` before and after `rewrite_eqn_to_secondary` in `tidy_phases`) -/
theorem satIndex_rewrite (f : TransFns Rat) (drop : Rat → Bool) (inUse : String → Bool)
    (defs : String → Option (Eqn Rat)) (la : String → Rat) (K : LogK Rat → Rat)
    (hK : letI := ratOps f; ∀ (p q : LogK Rat) (c : Rat), K (p.addScaled c q) = K p + c * K q)
    (hdrop : ∀ c, drop c = true → c = 0)
    (hdefs : letI := ratOps f; ∀ n d, defs n = some d → d.head = n ∧ residual la K d = 0)
    (fuel : Nat) (e e' : Eqn Rat) :
    letI := ratOps f
    rewriteToMasters drop inUse defs fuel e = some e' →
      satIndex la (-(K e'.k)) e'.body = satIndex la (-(K e.k)) e.body := by
  intro h
  obtain ⟨h1, h2⟩ := rewrite_residual_eq f drop inUse defs la K hK hdrop hdefs fuel e e' h
  simp only [residual, h1, sub_left_inj] at h2
  unfold satIndex
  rw [sub_neg_eq_add, sub_neg_eq_add, add_comm, h2, add_comm]

/-! ### non-vacuity of the rewriting theorems: a small carbonate network -/

namespace Ex
/-- dummy transcendental functions for the concrete instances -/
def f0 : TransFns Rat := ⟨id, id, id, id, id, id, id, id, id, id⟩

def lk0 (k0 : Rat) : LogK Rat := ⟨k0, 0, 0, 0, 0, 0, 0, 0, 0⟩

def inUse (n : String) : Bool := n == "H+" || n == "H2O" || n == "CO3-2" || n == "Ca+2"

def hco3 : Eqn Rat := ⟨"HCO3-", [("CO3-2", 1), ("H+", 1)], lk0 (10329 / 1000)⟩
def co2 : Eqn Rat := ⟨"CO2", [("HCO3-", 1), ("H+", 1), ("H2O", -1)], lk0 (6352 / 1000)⟩
def cahco3 : Eqn Rat := ⟨"CaHCO3+", [("Ca+2", 1), ("HCO3-", 1)], lk0 (1106 / 1000)⟩

def defs (n : String) : Option (Eqn Rat) :=
  if n == "HCO3-" then some hco3 else if n == "CO2" then some co2 else if n == "CaHCO3+" then some cahco3 else none

def la (n : String) : Rat :=
  if n == "H+" then -7 else if n == "CO3-2" then -5 else if n == "H2O" then 0 else if n == "Ca+2" then -3
  else if n == "HCO3-" then 10329 / 1000 - 12
  else if n == "CO2" then 6352 / 1000 + 10329 / 1000 - 19
  else if n == "CaHCO3+" then 1106 / 1000 + 10329 / 1000 - 15
  else 0

def K (k : LogK Rat) : Rat := k.k0
def drop0 (c : Rat) : Bool := c == 0

def view3 (e : Eqn Rat) : String × List (String × Rat) × Rat := (e.head, e.body, e.k.k0)
end Ex

open Ex in
example : letI := ratOps f0
    (rewriteToMasters drop0 inUse defs 20 co2).map view3
      = some ("CO2", [("H+", 2), ("H2O", -1), ("CO3-2", 1)], 10329 / 1000 + 6352 / 1000) := by
  decide +kernel

open Ex in
/-- CaHCO3+ (defined through the non-master HCO3-) in terms of the masters in use -/
example : letI := ratOps f0
    (rewriteToMasters drop0 inUse defs 20 cahco3).map view3
      = some ("CaHCO3+", [("Ca+2", 1), ("CO3-2", 1), ("H+", 1)], 1106 / 1000 + 10329 / 1000) := by
  decide +kernel

open Ex in
/-- fuel exhausted / species without defining equation: `none` -/
example : letI := ratOps f0
    (rewriteToMasters drop0 inUse defs 0 co2).map view3 = none ∧
    (rewriteToMasters drop0 inUse defs 20 ⟨"X", [("Y", 1)], lk0 0⟩).map view3 = none := by
  decide +kernel

open Ex in
theorem Ex.hK : letI := ratOps f0; ∀ (p q : LogK Rat) (c : Rat), K (p.addScaled c q) = K p + c * K q :=
  fun _ _ _ => rfl

open Ex in
theorem Ex.hdrop : ∀ c, drop0 c = true → c = 0 := by
  intro c h; simpa [drop0] using h

open Ex in
theorem Ex.hdefs : letI := ratOps f0; ∀ n d, defs n = some d → d.head = n ∧ residual la K d = 0 := by
  intro n d h
  unfold defs at h
  split at h
  · rename_i hn; cases h; exact ⟨(eq_of_beq hn).symm, by decide +kernel⟩
  · split at h
    · rename_i hn; cases h; exact ⟨(eq_of_beq hn).symm, by decide +kernel⟩
    · split at h
      · rename_i hn; cases h; exact ⟨(eq_of_beq hn).symm, by decide +kernel⟩
      · cases h

open Ex in
/-- all hypotheses of `rewrite_mass_action_iff` hold on the carbonate network; its conclusion, obtained from the theorem,
agrees with direct evaluation -/
example : letI := ratOps f0
    ∃ e', rewriteToMasters drop0 inUse defs 20 co2 = some e' ∧ e'.head = "CO2" ∧
      residual la K e' = 0 ∧ (∀ p ∈ e'.body, inUse p.1 = true) := by
  cases h : @rewriteToMasters Rat (ratOps f0) drop0 inUse defs 20 co2 with
  | none => exact absurd h (by decide +kernel)
  | some e' =>
    have h1 := rewrite_residual_eq f0 drop0 inUse defs la K Ex.hK Ex.hdrop Ex.hdefs 20 co2 e' h
    have h2 := rewrite_only_masters f0 drop0 inUse defs 20 co2 e' h
    have h3 : @residual Rat (ratOps f0) la K co2 = 0 := by decide +kernel
    exact ⟨e', rfl, h1.1, by rw [h1.2, h3], h2⟩

open Ex in
example : letI := ratOps f0
    (rewriteToMasters drop0 inUse defs 20 co2).map
        (fun e => (coefOf "H+" e.body, coefOf "CO3-2" e.body, coefOf "H2O" e.body, coefOf "HCO3-" e.body, residual la K e))
      = some (2, 1, -1, 0, 0) := by
  decide +kernel

/-! ### `molalities()`, `under()` -/

theorem speciate_mass_action (f : TransFns Rat) (lk lg : Rat) (la : String → Rat) (body : List (String × Rat)) :
    letI := ratOps f
    speciateLm lk lg la body + lg = lk + evalBody la body := by
  simp only [speciateLm]
  ring

theorem speciate_residual (f : TransFns Rat) (K : LogK Rat → Rat) (lg : Rat) (la : String → Rat) (e : Eqn Rat) :
    letI := ratOps f
    la e.head = speciateLm (K e.k) lg la e.body + lg → residual la K e = 0 := by
  intro h
  simp only [residual, h, speciateLm]
  ring

theorem underMoles_zero (f : TransFns Rat) (lm W : Rat) : letI := ratOps f; lm < -40 → underMoles lm W = 0 :=
  fun h => (if_pos h).trans (zero_mul W)

theorem underMoles_mid (f : TransFns Rat) (lm W : Rat) :
    letI := ratOps f; -40 ≤ lm → lm ≤ 3 → underMoles lm W = f.exp10 lm * W :=
  fun h1 h2 => (if_neg (not_lt.mpr h1)).trans (if_neg (not_lt.mpr h2))

theorem underMoles_cap (f : TransFns Rat) (lm W : Rat) : letI := ratOps f; 3 < lm → underMoles lm W = 1000 * W := by
  intro h
  have h0 : ¬ lm < -40 := not_lt.mpr (le_trans (by decide) h.le)
  exact (if_neg h0).trans (if_pos h)

/-! ### the convergence gate -/

theorem iterate_sound (f : TransFns Rat) {σ : Type} (view : σ → GateCtx Rat × List (Unknown Rat)) (step : σ → σ)
    (fuel : Nat) (s s' : σ) :
    letI := ratOps f
    iterate view step fuel s = some s' → converged (view s').1 (view s').2 = true := by
  fun_induction @iterate Rat (ratOps f) σ _ _ view step fuel s with
  | case1 s hc => intro h; cases h; exact hc   -- no fuel, converged
  | case2 => intro h; cases h   -- no fuel, not converged: `none`
  | case3 fuel s hc => intro h; cases h; exact hc   -- converged
  | case4 fuel s hc ih => exact ih   -- one more step

theorem gate_sound (f : TransFns Rat) {σ : Type} (view : σ → GateCtx Rat × List (Unknown Rat)) (step : σ → σ)
    (again : σ → Option σ) (itmax passes : Nat) (s s' : σ) :
    letI := ratOps f
    runModel view step again itmax passes s = .ok s' →
      converged (view s').1 (view s').2 = true ∧ checkResiduals (view s').1 (view s').2 = true := by
  fun_induction @runModel Rat (ratOps f) σ _ _ view step again itmax passes s with
  | case1 => intro h; cases h   -- no pass left: error
  | case2 => intro h; cases h   -- `iterate` ran out of iterations: error
  | case3 passes s s1 hit hc ha =>   -- both tests passed and `again` asks for nothing: the only `ok`
    intro h; cases h; exact ⟨iterate_sound f view step itmax s _ hit, hc⟩
  | case4 passes s s1 hit hc s2 ha ih => exact ih   -- `again` asks for another pass
  | case5 => intro h; cases h   -- `check_residuals()` complains: error

theorem absv_eq_abs (f : TransFns Rat) (x : Rat) : letI := ratOps f; absv x = |x| := by
  rcases lt_or_ge x 0 with h | h
  · exact (if_pos h).trans ((zero_sub x).trans (abs_of_neg h).symm)
  · exact (if_neg (not_lt.mpr h)).trans (abs_of_nonneg h).symm

theorem converged_mb (f : TransFns Rat) (c : GateCtx Rat) (us : List (Unknown Rat)) (u : Unknown Rat) :
    letI := ratOps f
    converged c us = true → u ∈ us → u.type = .mb →
      0 ≤ u.moles ∧ (absv (u.moles - u.f) ≤ c.tol * u.moles ∨
        absv (u.moles - u.f) ≤ f.sqrt (absv u.moles * c.minTotal) ∨ u.moles ≤ c.minTotal) := by
  intro h hu ht
  have h1 := List.all_eq_true.mp h u hu
  -- the literals stay as `NumOps.lit _` (`exact` sees through them): rewriting them first would leave each `decide`
  -- with the instance of the old proposition, and `decide_eq_false_iff_not` would no longer apply
  simp only [fails, residualOf, ht, Bool.not_eq_true', Bool.or_eq_false_iff, Bool.and_eq_false_iff,
    decide_eq_false_iff_not, not_lt] at h1
  exact ⟨h1.2, or_assoc.mp h1.1⟩

theorem converged_alk (f : TransFns Rat) (c : GateCtx Rat) (us : List (Unknown Rat)) (u : Unknown Rat) :
    letI := ratOps f
    converged c us = true → u ∈ us → u.type = .alk → absv (u.moles - u.f) ≤ c.tol * u.moles := by
  intro h hu ht
  have h1 := List.all_eq_true.mp h u hu
  simp only [fails, residualOf, ht, Bool.not_eq_true', decide_eq_false_iff_not, not_lt] at h1
  exact h1

theorem converged_cb (f : TransFns Rat) (c : GateCtx Rat) (us : List (Unknown Rat)) (u : Unknown Rat) :
    letI := ratOps f
    converged c us = true → u ∈ us → u.type = .cb →
      absv (if c.phIsCb then 0 - u.f + u.moles else 0 - u.f) < c.tol * c.mu * c.massWater := by
  intro h hu ht
  have h1 := List.all_eq_true.mp h u hu
  simp only [fails, residualOf, ht, Bool.not_eq_true', decide_eq_false_iff_not, not_le] at h1
  exact h1

theorem converged_mu (f : TransFns Rat) (c : GateCtx Rat) (us : List (Unknown Rat)) (u : Unknown Rat) :
    letI := ratOps f
    converged c us = true → u ∈ us → u.type = .mu →
      absv (c.massWater * c.mu - 1 / 2 * u.f) ≤ c.tol * c.mu * c.massWater := by
  intro h hu ht
  have h1 := List.all_eq_true.mp h u hu
  simp only [fails, residualOf, ht, Bool.not_eq_true', decide_eq_false_iff_not, not_lt] at h1
  exact h1

theorem checkResiduals_mb (f : TransFns Rat) (c : GateCtx Rat) (us : List (Unknown Rat)) (u : Unknown Rat) :
    letI := ratOps f
    checkResiduals c us = true → u ∈ us → (u.type = .mb ∨ u.type = .alk) →
      (absv (u.moles - u.f) < c.tol * u.moles ∨
        absv (u.moles - u.f) ≤ f.sqrt (absv u.moles * c.minTotal) ∨ u.moles ≤ c.minTotal) := by
  intro h hu ht
  have h1 := List.all_eq_true.mp h u hu
  rcases ht with ht | ht <;>
  · simp only [checkFails, residualOf, ht, Bool.not_eq_true', Bool.and_eq_false_iff, decide_eq_false_iff_not,
      not_lt, not_le] at h1
    exact or_assoc.mp h1

theorem checkResiduals_cb (f : TransFns Rat) (c : GateCtx Rat) (us : List (Unknown Rat)) (u : Unknown Rat) :
    letI := ratOps f
    checkResiduals c us = true → u ∈ us → u.type = .cb →
      absv (if c.phIsCb then 0 - u.f + u.moles else 0 - u.f) < c.tol * c.mu * c.massWater := by
  intro h hu ht
  have h1 := List.all_eq_true.mp h u hu
  simp only [checkFails, residualOf, ht, Bool.not_eq_true', decide_eq_false_iff_not, not_le] at h1
  exact h1

theorem checkResiduals_mu (f : TransFns Rat) (c : GateCtx Rat) (us : List (Unknown Rat)) (u : Unknown Rat) :
    letI := ratOps f
    checkResiduals c us = true → u ∈ us → u.type = .mu →
      absv (c.massWater * c.mu - 1 / 2 * u.f) < c.tol * c.mu * c.massWater := by
  intro h hu ht
  have h1 := List.all_eq_true.mp h u hu
  simp only [checkFails, residualOf, ht, Bool.not_eq_true', decide_eq_false_iff_not, not_le] at h1
  exact h1

/-! ### non-vacuity of the gate: a state with two unknowns -/

namespace Ex
def ctx : GateCtx Rat := ⟨1 / 1000, 1 / 1000000000000000, 1 / 10, 1, false, false⟩
/-- state = iteration counter; the mass-balance sum reaches the total at the third step; `fmu` = `Σ z²·moles` -/
def view (fmu : Rat) (s : Nat) : GateCtx Rat × List (Unknown Rat) :=
  (ctx, [⟨.mb, 1 / 1000, if s < 3 then 2 / 1000 else 1 / 1000, 0, 0⟩, ⟨.mu, 0, fmu, 0, 0⟩])
def Outcome.toOption {σ : Type} : Outcome σ → Option σ
  | .ok s => some s
  | .error => none
end Ex

open Ex in
/-- the gate lets a state through (`ok 3`); too few iterations: error; an ionic-strength residual exactly AT the tolerance
passes `residuals()` (not converged only when `tol·μ·W < |r|`) but not `check_residuals()` (ERROR when `tol·μ·W ≤ |r|`): error -/
example : letI := ratOps f0
    Outcome.toOption (runModel (view (2 / 10)) (· + 1) (fun _ => none) 10 2 0) = some 3 ∧
    Outcome.toOption (runModel (view (2 / 10)) (· + 1) (fun _ => none) 2 2 0) = none ∧
    converged (view (1998 / 10000) 3).1 (view (1998 / 10000) 3).2 = true ∧
    checkResiduals (view (1998 / 10000) 3).1 (view (1998 / 10000) 3).2 = false ∧
    Outcome.toOption (runModel (view (1998 / 10000)) (· + 1) (fun _ => none) 10 2 0) = none ∧
    -- a second pass requested once by `again`
    Outcome.toOption (runModel (view (2 / 10)) (· + 1) (fun s => if s < 5 then some 5 else none) 10 2 0) = some 5 ∧
    Outcome.toOption (runModel (view (2 / 10)) (· + 1) (fun s => if s < 5 then some 5 else none) 10 1 0) = none := by
  decide +kernel

open Ex in
/-- `gate_sound` applied to the passing run -/
example : letI := ratOps f0
    converged (view (2 / 10) 3).1 (view (2 / 10) 3).2 = true ∧ checkResiduals (view (2 / 10) 3).1 (view (2 / 10) 3).2 = true := by
  have h : Outcome.toOption (@runModel Rat (ratOps f0) Nat _ _ (view (2 / 10)) (· + 1) (fun _ => none) 10 2 0) = some 3 := by
    decide +kernel
  generalize hr : @runModel Rat (ratOps f0) Nat _ _ (view (2 / 10)) (· + 1) (fun _ => none) 10 2 0 = r at h
  cases r with
  | ok s => cases h; exact gate_sound f0 _ _ _ 10 2 0 3 hr
  | error => cases h

/-! ### sums of `sum_species`, read-outs -/

theorem sumBy_append (f : TransFns Rat) (g : SpRec Rat → Rat) (a b : List (SpRec Rat)) :
    letI := ratOps f; sumBy g (a ++ b) = sumBy g a + sumBy g b := by
  induction a with
  | nil => simp only [List.nil_append, sumBy, rat_ops, zero_add]
  | cons s t ih => simp only [List.cons_append, sumBy, ih, add_assoc]

theorem total_append (f : TransFns Rat) (elt : String) (a b : List (SpRec Rat)) :
    letI := ratOps f; total elt (a ++ b) = total elt a + total elt b :=
  sumBy_append f _ a b

theorem chargeBalance_append (f : TransFns Rat) (a b : List (SpRec Rat)) :
    letI := ratOps f; chargeBalance (a ++ b) = chargeBalance a + chargeBalance b :=
  sumBy_append f _ a b

theorem valenceTotal_append (f : TransFns Rat) (m : String) (atoms : Rat) (sec : String → List (String × Rat))
    (a b : List (SpRec Rat)) :
    letI := ratOps f; valenceTotal m atoms sec (a ++ b) = valenceTotal m atoms sec a + valenceTotal m atoms sec b :=
  sumBy_append f _ a b

/-- the totals of the valence states of an element add up to the element total, provided each species' secondary-form
reaction carries the species' atoms of the element (`Σ_m atoms(m) · coef(m in sec s) = atoms of e in s`) -/
theorem valence_totals_add_up (f : TransFns Rat) (ms : List (String × Rat)) (e : String)
    (sec : String → List (String × Rat)) (sp : List (SpRec Rat)) :
    letI := ratOps f
    (∀ s ∈ sp, (ms.map (fun m => m.2 * coefOf m.1 (sec s.name))).sum = coefOf e s.elts) →
      (ms.map (fun m => valenceTotal m.1 m.2 sec sp)).sum = total e sp := by
  induction sp with
  | nil =>
    intro _
    exact sum_map_zero ms
  | cons s t ih =>
    intro h
    -- `valenceTotal m.1 m.2 sec (s :: t)` is `m.2 * coefOf m.1 (sec s.name) * s.moles + valenceTotal m.1 m.2 sec t` by
    -- definition (`sumBy` on a cons), the shape `sum_map_mul_add` splits; likewise `total e (s :: t)` for the closing `rfl`
    refine (sum_map_mul_add ms (fun m => m.2 * @coefOf Rat (ratOps f) m.1 (sec s.name))
      (fun m => @valenceTotal Rat (ratOps f) m.1 m.2 sec t) s.moles).trans ?_
    rw [h s List.mem_cons_self, ih fun s' hs' => h s' (List.mem_cons_of_mem _ hs')]
    rfl

/-- Fe(+2)/Fe(+3): FeCl+ and Fe+2 count for Fe(+2), Fe(OH)2+ for Fe(+3); the two totals add up to total Fe -/
example : letI := ratOps (⟨id, id, id, id, id, id, id, id, id, id⟩ : TransFns Rat)
    let sec : String → List (String × Rat) := fun n =>
      if n == "Fe+2" then [("Fe+2", 1)] else if n == "FeCl+" then [("Fe+2", 1), ("Cl-", 1)]
      else if n == "Fe+3" then [("Fe+3", 1)] else if n == "Fe(OH)2+" then [("Fe+3", 1), ("H2O", 2), ("H+", -2)] else []
    let sp : List (SpRec Rat) := [⟨"Fe+2", 2, 1 / 1000, 0, [("Fe", 1)]⟩, ⟨"FeCl+", 1, 1 / 5000, 0, [("Fe", 1), ("Cl", 1)]⟩,
      ⟨"Fe+3", 3, 1 / 100000, -2, [("Fe", 1)]⟩, ⟨"Fe(OH)2+", 1, 3 / 100000, 0, [("Fe", 1), ("O", 2), ("H", 2)]⟩,
      ⟨"Cl-", -1, 1 / 100, 0, [("Cl", 1)]⟩]
    valenceTotal "Fe+2" 1 sec sp = 1 / 1000 + 1 / 5000 ∧ valenceTotal "Fe+3" 1 sec sp = 4 / 100000 ∧
    total "Fe" sp = 1 / 1000 + 1 / 5000 + 4 / 100000 ∧
    ([("Fe+2", (1 : Rat)), ("Fe+3", 1)].map (fun m => valenceTotal m.1 m.2 sec sp)).sum = total "Fe" sp := by
  decide +kernel

theorem readouts_consistent (f : TransFns Rat) (la : String → Rat) (lk lm lg : Rat) (body : List (String × Rat)) :
    letI := ratOps f
    pH la = - la "H+" ∧ satIndex la lk body = evalBody la body - lk ∧
      satRatio la lk body = f.exp10 (satIndex la lk body) ∧ logActivity lm lg = lm + lg ∧
      (logActivity (speciateLm lk lg la body) lg = lk + evalBody la body) := by
  refine ⟨zero_sub _, rfl, rfl, rfl, ?_⟩
  simp only [logActivity, speciateLm]
  ring

/-! ### source constants, alkalinity lookup -/

open Gen.SpeciationSrc in
/-- the constants the models use are the ones in the C++ source (read by `tools/gen_speciation.py` on every run) -/
theorem source_constants :
    recognised = true ∧ SELECT_SHAPE = true ∧ R_KJ_DEG_MOL = Thermo.rKJ ∧ KCALC_TREF = Thermo.tRef ∧
    REF_PRES_PASCAL = Thermo.pRef ∧ PASCAL_PER_ATM = Thermo.pRef ∧ COMBINE_TOL = Speciation.combineTol ∧
    UNDER_MIN = -40 ∧ MAX_LM = 3 ∧ MAX_M = 1000 ∧ LN_ALPHA_SIXTH = false ∧ LN_ALPHA_DIV = 1000 ∧
    CONV_TOL = 1 / 100000000 ∧ MIN_TOTAL = 1 / 10000000000000000000000000 ∧ KCALC_VFACTOR = 1 / 1000000000 ∧
    JOULES_PER_CALORIE = 4184 / 1000 ∧ DH_KILO = 1000 ∧ MAX_ADD_EQUATIONS = 20 := by
  decide +kernel

open Gen.SpeciationSrc in
/-- `kCalc` is the formula of `k_calc` written with the constants of the source -/
theorem kCalc_source (f : TransFns Rat) (p : LogK Rat) (T P : Rat) :
    letI := ratOps f
    kCalc p T P =
      (let lk := p.k0 - p.dh * (KCALC_TREF - T) / (f.ln 10 * (T * R_KJ_DEG_MOL) * KCALC_TREF) + p.a1 + p.a2 * T
          + p.a3 / T + p.a4 * f.log10 T + p.a5 / (T * T) + p.a6 * T * T
       if 0 < P - REF_PRES_PASCAL then lk - p.dv * KCALC_VFACTOR * (P - REF_PRES_PASCAL) / (f.ln 10 * (T * R_KJ_DEG_MOL))
       else lk) := by
  simp only [source_constants]
  rfl

open Gen.SpeciationSrc in
theorem dhToKJ_source (f : TransFns Rat) (x : Rat) :
    letI := ratOps f
    dhToKJ .kcal x = x * JOULES_PER_CALORIE ∧ dhToKJ .J x = x / DH_KILO ∧
      dhToKJ .cal x = x / DH_KILO * JOULES_PER_CALORIE ∧ dhToKJ .kJ x = x := by
  simp only [source_constants]
  exact ⟨rfl, rfl, rfl, rfl⟩

theorem alk_lookup_order : Gen.SpeciationSrc.ALK_SECONDARY_FIRST = true := by decide

theorem lastLine_spec (w : Bool) (n : String) (ms : List (MasterLine Rat)) (m : MasterLine Rat) :
    lastLine w n ms = some m → m ∈ ms ∧ m.primary = w ∧ m.species = n ∧ m.elt ≠ "Alkalinity" := by
  fun_induction lastLine w n ms with
  | case1 => intro h; cases h
  | case2 x t r hr ih =>   -- a later line matches: it wins
    intro h; cases h
    exact ⟨List.mem_cons_of_mem _ (ih hr).1, (ih hr).2⟩
  | case3 x t hr hc ih =>   -- no later line matches, this one does
    intro h; cases h
    simp only [Bool.and_eq_true, beq_iff_eq, Bool.not_eq_true', beq_eq_false_iff_ne] at hc
    exact ⟨List.mem_cons_self, hc.1.1, hc.1.2, hc.2⟩
  | case4 => intro h; cases h   -- neither

/-- the valence line of a species takes precedence over its element line (`calc_alk` looks at `s->secondary` first) -/
theorem masterAlk_valence_precedence (n : String) (ms : List (MasterLine Rat)) (m : MasterLine Rat) :
    lastLine false n ms = some m → masterAlk true ms n = some m.alk := by
  intro h; simp [masterAlk, h]

theorem masterAlk_element_line (n : String) (ms : List (MasterLine Rat)) :
    lastLine false n ms = none → masterAlk true ms n = (lastLine true n ms).map (·.alk) := by
  intro h; simp [masterAlk, h]

/-- minteq.dat: `Fe Fe+3 0`, `Fe(+2) Fe+2 0`, `Fe(+3) Fe+3 -2`. The right order gives Fe+3 the alkalinity −2 and
Fe(OH)2+ alkalinity 0; looking at the element line first gives 0 and 2 -/
example : letI := ratOps (⟨id, id, id, id, id, id, id, id, id, id⟩ : TransFns Rat)
    let ms : List (MasterLine Rat) := [⟨"Fe", "Fe+3", 0, true⟩, ⟨"Fe(+2)", "Fe+2", 0, false⟩, ⟨"Fe(+3)", "Fe+3", -2, false⟩,
      ⟨"H", "H+", -1, true⟩, ⟨"H(1)", "H+", -1, false⟩, ⟨"O", "H2O", 0, true⟩, ⟨"Alkalinity", "CO3-2", 1, true⟩]
    let feoh2 : Eqn Rat := ⟨"Fe(OH)2+", [("Fe+3", 1), ("H2O", 2), ("H+", -2)], ⟨-567 / 100, 0, 0, 0, 0, 0, 0, 0, 0⟩⟩
    masterAlk true ms "Fe+3" = some (-2) ∧ masterAlk false ms "Fe+3" = some 0 ∧
    masterAlk true ms "H2O" = some 0 ∧ masterAlk true ms "CO3-2" = none ∧
    speciesAlk (fun n => (masterAlk true ms n).getD 0) feoh2 = 0 ∧
    speciesAlk (fun n => (masterAlk false ms n).getD 0) feoh2 = 2 := by
  decide +kernel

end PhreeqcVerif.C01
