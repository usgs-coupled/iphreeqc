import PhreeqcVerif.Lemmas.Gamma
import Lean.Elab.Tactic
import PhreeqcVerif.Gen.GammaSrc
/-!
# C16 — activity-coefficient models follow their defining equations and Gibbs–Duhem

Statements about `Model/Gamma.lean` (the branches of `Phreeqc::gammas`, the model-selection rule of `read_species`,
the LLNL grid interpolation) and `Model/Pitzer.lean` (the sums of `Phreeqc::pitzer` / `Phreeqc::sit`).  The models are
tied to the C++ by `tools/props/c16.py` (per-species correspondence of real runs at 1e-9; in-process comparison of the
Pitzer/SIT working arrays; integrated Gibbs–Duhem and water-activity oracles on real outputs).

What is assumed, not proved: `sqrt`, `ln`, `exp` are uninterpreted; `pitzer_gibbs_duhem` takes `√I·√I = I` as a hypothesis
and their derivative rules from the dual numbers (`Pitzer.dualFns`).  It is for `patm_x ≤ 1`: the pressure branch and
`sit()` have no Gibbs–Duhem theorem (there the numerical oracle of the check stands alone); exchange and surface species
(`gflag` 4, 6) are outside the model.
-/
namespace PhreeqcVerif.Gamma
open NumOps

/-! ## model selection -/

/-- **Every species gets exactly one activity-coefficient model**: for every species declaration (charge, name,
any sequence of gamma-type options) there is one and only one model the database rule assigns, it is the one the
reader computes, and it is one of the aqueous branches of `gammas` (never exchange / surface). -/
theorem gamma_model_total_exclusive {α : Type} [NumOps α] (d : Decl α) :
    (∃ k, Assigned d k ∧ ∀ k', Assigned d k' → k' = k) ∧ Assigned d (assign d).model ∧
    (assign d).model ∈ [GModel.uncharged, .davies, .wateq, .unity, .llnl, .llnlCO2, .actWater] := by
  have h := assign_assigned d
  refine ⟨⟨_, h, assigned_eq d⟩, h, ?_⟩
  generalize (assign d).model = m at h
  cases h with
  | lastOpt o _ => cases o <;> simp [GOpt.model]
  | _ => simp

/-- `gflag` numbers and branches correspond one to one -/
theorem flag_roundtrip (m : GModel) : GModel.ofFlag m.flag = some m := by cases m <;> rfl

/-- every selectable model has a defined value once the LLNL parameters exist (or are not needed) -/
theorem lgOf_defined {α : Type} [NumOps α] [∀ a b : α, Decidable (a < b)] [∀ a b : α, Decidable (a ≤ b)]
    (d : Decl α) (e : Env α) (z : α)
    (h : e.hasLlnl = true ∨ ((assign d).model ≠ .llnl ∧ (assign d).model ≠ .llnlCO2)) :
    (lgOf e (assign d).model z (assign d).dha (assign d).dhb).isSome = true := by
  have hm := (gamma_model_total_exclusive d).2.2
  generalize (assign d).model = m at hm h
  cases m with
  | exchange | surface => simp at hm
  | llnl | llnlCO2 => simp [lgOf, h.resolve_right (by simp)]
  | _ => rfl

/-- non-vacuity: `-llnl_gamma 4` followed by `-gamma 5` (second number missing) on a charged species -/
example (f : TransFns Rat) : letI := ratOps f
    (assign (α := Rat) { zIsZero := false, special := .none, opts := [.llnlGamma (some 4), .gamma (some 5) none] }).model
      = GModel.wateq ∧
    (assign (α := Rat) { zIsZero := false, special := .none, opts := [.llnlGamma (some 4), .gamma (some 5) none] }).dha = 5 ∧
    (assign (α := Rat) { zIsZero := true, special := .none, opts := [] }).dhb = 1 / 10 :=
  ⟨rfl, rfl, rfl⟩


/-! ## the formulas -/

/-- **log γ = 0 at I = 0** for every formula branch of `gammas` (Davies, extended/WATEQ Debye–Hückel, `b·I`,
B-dot, the CO₂ polynomial), for arbitrary parameters, whatever `sqrt` is as long as `sqrt 0 = 0`. -/
theorem gamma_zero_mu (f : TransFns Rat) (hs : f.sqrt 0 = 0) (a b z dha dhb aL bL bd c0 c1 c2 c3 c4 tk : Rat) :
    letI := ratOps f
    davies a 0 z = 0 ∧ wateq a b 0 z dha dhb = 0 ∧ uncharged 0 dhb = 0 ∧ bdot aL bL bd 0 z dha = 0 ∧
    co2Poly c0 c1 c2 c3 c4 tk 0 = 0 := by
  refine ⟨?_, ?_, ?_, ?_, ?_⟩
  · simp [davies, hs]
  · simp [wateq, hs]
  · simp [uncharged]
  · simp only [bdot, rat_sqrt, rat_lit, hs]
    split <;> simp
  · simp [co2Poly]

/-- the same through `lgOf`: with `mu = 0` every defined value other than the water-activity branch is 0 -/
theorem gamma_zero_mu_lgOf (f : TransFns Rat) (hs : f.sqrt 0 = 0) (e : Env Rat) (hmu : e.mu = 0)
    (c0 c1 c2 c3 c4 tk : Rat) (m : GModel) (hm : m ≠ .actWater) (z dha dhb v : Rat) :
    letI := ratOps f
    e.lgCO2 = co2Poly c0 c1 c2 c3 c4 tk e.mu → lgOf e m z dha dhb = some v → v = 0 := by
  intro hc h
  obtain ⟨h1, h2, h3, h4, h5⟩ := gamma_zero_mu f hs e.a e.b z dha dhb e.aL e.bL e.bdotL c0 c1 c2 c3 c4 tk
  cases m <;> simp only [lgOf, hmu, Option.some.injEq, reduceCtorEq, Option.ite_none_right_eq_some] at h
  case uncharged => exact h ▸ h3
  case davies => exact h ▸ h1
  case wateq => exact h ▸ h2
  case unity | unity5 => exact h.symm
  case llnl => exact h.2 ▸ h4
  case llnlCO2 => rw [← h.2, hc, hmu]; exact h5
  case actWater => exact absurd rfl hm

/-- the entry of `gammas` never evaluates the formulas at `mu <= 0`: it substitutes `1e-10` -/
theorem clampMu_spec (f : TransFns Rat) (mu : Rat) :
    letI := ratOps f
    (mu ≤ 0 → clampMu mu = 1 / 10000000000) ∧ (0 < mu → clampMu mu = mu) ∧ 0 < clampMu mu := by
  simp only [clampMu, rat_lit]
  by_cases h : mu ≤ 0
  · simp [h]
  · have h' : 0 < mu := lt_of_not_ge h
    simp [h, h']

/-- **γ depends on the charge only through z²**: two charges with the same square give the same value in every
branch (in particular `z` and `−z`). -/
theorem gamma_depends_on_z_sq (f : TransFns Rat) (e : Env Rat) (m : GModel) (z z' dha dhb : Rat)
    (h : z * z = z' * z') : letI := ratOps f; lgOf e m z dha dhb = lgOf e m z' dha dhb := by
  have hz : z = 0 ↔ z' = 0 := by rw [← mul_self_eq_zero, h, mul_self_eq_zero]
  cases m <;> simp only [lgOf]
  case davies => simp only [davies, neg_mul, h]
  case wateq => simp only [wateq, mul_assoc, h]
  case llnl => simp only [bdot, isZero_rat, hz, mul_assoc, h]

/-- non-vacuity: Davies at `a = 1/2`, `I = 1`, `sqrt 1 = 1`: `z = 2` and `z = −2` both give `−2/5` -/
example : letI := ratOps ⟨id, id, id, id, id, id, id, id, id, id⟩
    davies (1 / 2 : Rat) 1 2 = -2 / 5 ∧ davies (1 / 2 : Rat) 1 (-2) = -2 / 5 :=
  ⟨by norm_num [davies], by norm_num [davies]⟩


/-! ## LLNL temperature grid -/

/-- **The LLNL interpolation as coded is a convex combination of adjacent grid nodes and is exact at nodes**:
on a strictly increasing temperature grid and for `tc` inside it, the indices found by the search loop are equal or
adjacent and bracket `tc`; the weight lies in `[0, 1]`; every interpolated array value lies between the two grid
values; at a node the value is the grid value. -/
theorem llnl_interp_convex (f : TransFns Rat) (ts vs : List Rat) (tc : Rat) (hs : ts.Pairwise (· < ·))
    (hr : letI := ratOps f; inRange ts tc = true) :
    letI := ratOps f
    ∃ i j v, search ts tc = (i, j) ∧ interp ts vs tc = some v ∧ j < ts.length ∧ (j = i ∨ j = i + 1) ∧
      ts.getD i 0 ≤ tc ∧ tc ≤ ts.getD j 0 ∧
      0 ≤ weight ts tc i j ∧ weight ts tc i j ≤ 1 ∧
      min (vs.getD i 0) (vs.getD j 0) ≤ v ∧ v ≤ max (vs.getD i 0) (vs.getD j 0) ∧
      (∀ k, k < ts.length → ts.getD k 0 = tc → i = k ∧ j = k ∧ v = vs.getD k 0) := by
  let _i : NumOps Rat := ratOps f
  obtain ⟨k, hk, h3, h4, hsearch, hk0⟩ := search_spec f ts tc hr
  have huniq : ∀ k', k' < ts.length → ts.getD k' 0 = tc → k' = k := by
    intro k' hk' he
    rcases Nat.lt_trichotomy k' k with hlt | heq | hgt
    · exact absurd (he ▸ h4 k' hlt) (lt_irrefl _)
    · exact heq
    · exact absurd (lt_of_lt_of_le (he ▸ getD_lt_of_pairwise ts hs k k' hgt hk') h3) (lt_irrefl _)
  obtain ⟨i, hi, hik, hit, hw0, hw1, hnode⟩ : ∃ i, search ts tc = (i, k) ∧ (k = i ∨ k = i + 1) ∧ ts.getD i 0 ≤ tc ∧
      0 ≤ weight ts tc i k ∧ weight ts tc i k ≤ 1 ∧ (ts.getD k 0 = tc → i = k) := by
    by_cases h6 : ts.getD k 0 ≤ tc
    · rw [if_pos h6] at hsearch
      refine ⟨k, hsearch, .inl rfl, h6, ?_, ?_, fun _ => rfl⟩ <;> simp [weight]
    · rw [if_neg h6] at hsearch
      have hkne : k ≠ 0 := hk0 h6
      have hprev : ts.getD (k - 1) 0 < tc := h4 (k - 1) (by omega)
      have hden : 0 < ts.getD k 0 - ts.getD (k - 1) 0 := sub_pos.2 (hprev.trans_le h3)
      have hw : weight ts tc (k - 1) k = (tc - ts.getD (k - 1) 0) / (ts.getD k 0 - ts.getD (k - 1) 0) := by
        rw [weight, if_neg (by omega)]; rfl
      refine ⟨k - 1, hsearch, .inr (by omega), hprev.le, ?_, ?_, fun h => absurd h.le h6⟩
      · rw [hw]; exact div_nonneg (sub_nonneg.2 hprev.le) hden.le
      · rw [hw]; exact (div_le_one hden).2 (sub_le_sub_right h3 _)
  have hb := blend_between (weight ts tc i k) (vs.getD i 0) (vs.getD k 0) hw0 hw1
  refine ⟨i, k, blend (weight ts tc i k) vs i k, hi, by simp only [interp, hr, if_true, hi], hk, hik, hit, h3, hw0, hw1,
    hb.1, hb.2, ?_⟩
  intro k' hk' he
  obtain rfl := huniq k' hk' he
  obtain rfl := hnode he
  exact ⟨rfl, rfl, by simp [blend, weight]⟩

/-- non-vacuity on the head of llnl.dat's grid: 40 °C lies between the 25 °C and 60 °C nodes -/
example : letI := ratOps ⟨id, id, id, id, id, id, id, id, id, id⟩
    search [1 / 100, 25, 60, 100] (40 : Rat) = (1, 2) ∧
    interp [1 / 100, 25, 60, 100] [4939 / 10000, 5114 / 10000, 5465 / 10000, 5995 / 10000] (40 : Rat)
      = some ((1 - 3 / 7) * (5114 / 10000) + 3 / 7 * (5465 / 10000)) ∧
    interp [1 / 100, 25, 60, 100] [4939 / 10000, 5114 / 10000, 5465 / 10000, 5995 / 10000] (60 : Rat) = some (5465 / 10000) ∧
    interp [1 / 100, 25, 60, 100] [1, 2, 3, 4] (101 : Rat) = none := by
  decide +kernel


end PhreeqcVerif.Gamma

namespace PhreeqcVerif.Pitzer
open NumOps

/-! ## Gibbs–Duhem: the input over the dual numbers -/

/-- a parameter with rational coefficients as a parameter over the dual numbers (all coefficients constant) -/
def PParam.toDual (p : PParam Rat) : PParam Dual :=
  { type := p.type, i0 := p.i0, i1 := p.i1, i2 := p.i2, p := .const p.p, c0den := .const p.c0den,
    ln0 := .const p.ln0, ln1 := .const p.ln1, ln2 := .const p.ln2, os := .const p.os, g := .const p.g,
    gp := .const p.gp, ex := .const p.ex, etheta := .const p.etheta, ethetap := .const p.ethetap }

def uses3 : PType → Bool
  | .psi | .zeta | .eta | .mu => true
  | _ => false

/-- species indices inside `0..n-1` -/
def PParam.wf (n : Nat) (p : PParam Rat) : Prop :=
  p.i0 < n ∧ p.i1 < n ∧ (uses3 p.type = true → p.i2 < n)

/-- the `ln_coef` / `os_coef` multipliers are the ones `pitzer_tidy` computes -/
def PParam.tidy (f : TransFns Rat) (neutral : Nat → Bool) (p : PParam Rat) : Prop :=
  letI := ratOps f
  (p.type = .lambda → (p.ln0, p.ln1, p.os) = lambdaCoefs p.i0 p.i1) ∧
  (p.type = .mu → p.ln0 = muLn p.i0 p.i1 p.i2 p.i0 (neutral p.i0) ∧ p.ln1 = muLn p.i0 p.i1 p.i2 p.i1 (neutral p.i1) ∧
      p.ln2 = muLn p.i0 p.i1 p.i2 p.i2 (neutral p.i2) ∧
      p.os = muOs p.i0 p.i1 p.i2 (neutral p.i0) (neutral p.i1) (neutral p.i2))

/-- first-order parts of the ionic-strength functions of one parameter -/
structure DData where
  dg : Rat
  dgp : Rat
  dex : Rat
  dE : Rat
  dEp : Rat

/-- a parameter over the dual numbers: constant coefficients, ionic-strength functions with first-order parts -/
def PParam.toDualI (p : PParam Rat) (q : DData) : PParam Dual :=
  { type := p.type, i0 := p.i0, i1 := p.i1, i2 := p.i2, p := .const p.p, c0den := .const p.c0den,
    ln0 := .const p.ln0, ln1 := .const p.ln1, ln2 := .const p.ln2, os := .const p.os, g := ⟨p.g, q.dg⟩,
    gp := ⟨p.gp, q.dgp⟩, ex := ⟨p.ex, q.dex⟩, etheta := ⟨p.etheta, q.dE⟩, ethetap := ⟨p.ethetap, q.dEp⟩ }

/-- the constant-coefficient part is the case of `toDualI` without first-order parts -/
theorem PParam.toDual_eq (p : PParam Rat) : p.toDual = p.toDualI ⟨0, 0, 0, 0, 0⟩ := rfl

/-- the derivative relations the code relies on, as hypotheses on the numbers a parameter carries at ionic strength
`I` with variation `dI`: `d g(α√I) = GP(α√I)/I · dI` (the code's `GP(y)` is `y g′(y)/2`), `exp(−α√I) = G + GP` (proved
for the coded `G`, `GP` in `g_gp_exp_partial`) together with its variation, and `d(ᴱθ) = ᴱθ′ dI` (the code's
`etheta` / `ethetap` pair); for the coded functions these are `g_derivative` and `etheta_derivative` -/
def IRel (I dI : Rat) (p : PParam Rat) (q : DData) : Prop :=
  q.dg = p.gp * dI / I ∧ p.ex = p.g + p.gp ∧ q.dex = q.dg + q.dgp ∧ q.dE = p.ethetap * dI

/-! ## Gibbs–Duhem: one parameter -/

theorem PParam.tidy.balanced {f : TransFns Rat} {neutral : Nat → Bool} {p : PParam Rat} (ht : p.tidy f neutral) :
    p.balanced := by
  let _r : NumOps Rat := ratOps f
  refine ⟨fun h => ?_, fun h => ?_⟩
  · have hl := ht.1 h
    simp only [lambdaCoefs, rat_lit] at hl
    split at hl
    all_goals
      simp only [Prod.mk.injEq] at hl
      rw [hl.1, hl.2.1, hl.2.2]
      norm_num
  · obtain ⟨h0, h1, h2, h3⟩ := ht.2 h
    rw [h0, h1, h2, h3]
    exact ⟨muLn_eq_muOs _ _ _ _ _ (.inl rfl), muLn_eq_muOs _ _ _ _ _ (.inr (.inl rfl)),
      muLn_eq_muOs _ _ _ _ _ (.inr (.inr rfl))⟩

/-- one parameter, constant-coefficient part: `Σ_k m_k · ε(its additions to LGAMMA[k])`, including its share of `z·CSUM`,
equals `ε(2 · its addition to OSMOT)` — for an arbitrary dual `bigZ`.  Every type goes the same way: unfold the additions,
take the first-order parts, compare; λ and μ need the relation between their multipliers. -/
theorem param_gd (f : TransFns Rat) (p : PParam Rat) (hb : p.balanced) (q : DData)
    (m d : Nat → Rat) (bigZ : Dual) (present : Nat → Bool) :
    letI := dualOps f
    wsum m (lnTermsConst (p.toDualI q) (fun k => Dual.mk (m k) (d k)) bigZ present)
        + bigZ.re * (csumOf (p.toDualI q) (fun k => Dual.mk (m k) (d k))).eps
      = 2 * (osConst (p.toDualI q) (fun k => Dual.mk (m k) (d k)) bigZ present).eps := by
  obtain ⟨ty, i0, i1, i2, pp, cden, l0, l1, l2, os, g, gp, ex, et, etp⟩ := p
  obtain ⟨hl, hm⟩ := hb
  simp only at hl hm
  cases ty
  case psi | zeta | eta | mu =>
    cases hp : present i2 <;>
      simp only [lnTermsConst, osConst, csumOf, PParam.toDualI, wsum, hp, hm, dual_ops, mul_zero, Bool.false_eq_true,
        if_false, if_true] <;>
      ring
  all_goals
    simp only [lnTermsConst, osConst, csumOf, PParam.toDualI, wsum, hl, dual_ops, mul_zero, div_const_eps]
    ring

/-- one parameter, ionic-strength-dependent part: `Σ_k m_k · ε(additions to LGAMMA[k])`, plus its share `2I · ε(F_var)`
of `Σ_k m_k z_k² F`, equals `ε(2 · its addition to OSMOT)` -/
theorem param_gd_I (f : TransFns Rat) (p : PParam Rat) (q : DData) (I dI : Rat) (hI : I ≠ 0) (hr : IRel I dI p q)
    (m d : Nat → Rat) (ue : Bool) :
    letI := dualOps f
    wsum m (lnTermsI (p.toDualI q) (fun k => Dual.mk (m k) (d k)) ue)
        + 2 * I * (fVar (p.toDualI q) (fun k => Dual.mk (m k) (d k)) (Dual.mk I dI) ue).eps
      = 2 * (osI (p.toDualI q) (fun k => Dual.mk (m k) (d k)) (Dual.mk I dI) ue).eps := by
  obtain ⟨ty, i0, i1, i2, pp, cden, l0, l1, l2, os, g, gp, ex, et, etp⟩ := p
  obtain ⟨dg, dgp, dex, dE, dEp⟩ := q
  obtain ⟨h1, h2, h3, h4⟩ := hr
  simp only at h1 h2 h3 h4
  subst h1 h2 h3 h4
  cases ty
  case b1 | b2 =>
    by_cases hz : pp = 0 <;>
      simp only [lnTermsI, osI, fVar, PParam.toDualI, isZero_dual, hz, decide_true, decide_false, Bool.false_eq_true,
        if_true, if_false, wsum, dual_ops]
    · ring
    · field_simp
      ring
  case etheta =>
    cases ue <;> simp only [lnTermsI, osI, fVar, PParam.toDualI, wsum, dual_ops, Bool.false_eq_true, if_false, if_true] <;>
      ring
  all_goals simp only [lnTermsI, osI, fVar, PParam.toDualI, wsum, dual_ops]; ring

/-- the additions of a list of parameters with indices below `n` go to species below `n`.  `T` is `lnTermsConst` for
`constTerms` and both kinds of additions for `allTerms`; `h` is `PParam.wf` of the rational parameters when `g` is `toDual` or
`toDualI`, which keep type and indices. -/
theorem terms_idx {α β : Type} [NumOps α] [∀ a b : α, Decidable (a ≤ b)] (n : Nat) (l : List β) (g : β → PParam α)
    (h : ∀ x ∈ l, (g x).i0 < n ∧ (g x).i1 < n ∧ (uses3 (g x).type = true → (g x).i2 < n)) (m : Nat → α) (bigZ : α)
    (present : Nat → Bool) (ue : Bool) (T : PParam α → List (Nat × α))
    (hT : ∀ p, T p ⊆ lnTermsConst p m bigZ present ++ lnTermsI p m ue) :
    ∀ t ∈ (l.map g).flatMap T, t.1 < n := by
  intro t ht
  obtain ⟨p, hp, hmem⟩ := List.mem_flatMap.mp ht
  obtain ⟨x, hx, rfl⟩ := List.mem_map.mp hp
  obtain ⟨h0, h1, h2⟩ := h x hx
  have ht := hT _ hmem
  generalize g x = p at h0 h1 h2 ht
  obtain ⟨ty, i0, i1, i2, pp, cden, l0, l1, l2, os, g, gp, ex, et, etp⟩ := p
  cases ty <;>
    simp only [lnTermsConst, lnTermsI, List.mem_append, List.mem_cons, List.mem_ite_nil_left, List.mem_ite_nil_right,
      List.not_mem_nil, or_false, false_or] at ht
  case b0 | c0 | theta | lambda => rcases ht with rfl | rfl <;> assumption
  case b1 | b2 | etheta => rcases ht with ⟨-, rfl | rfl⟩ <;> assumption
  all_goals
    have := h2 rfl
    rcases ht with ⟨-, rfl | rfl | rfl⟩ <;> assumption

/-! ## Gibbs–Duhem for the constant-coefficient virial part -/

theorem virial_gibbs_duhem_balanced (f : TransFns Rat) (n : Nat) (ps : List (PParam Rat))
    (hwf : ∀ p ∈ ps, p.wf n) (hbal : ∀ p ∈ ps, p.balanced) (m d zabs : Nat → Rat) (present : Nat → Bool) :
    letI := dualOps f
    rsum n (fun k => m k *
        (lgammaConst (ps.map PParam.toDual) (fun k => Dual.mk (m k) (d k)) (fun k => Dual.const (zabs k))
          (sumTo n fun k => Dual.mk (m k) (d k) * Dual.const (zabs k)) present k).eps)
      = (lit 2 * osmotConst (ps.map PParam.toDual) (fun k => Dual.mk (m k) (d k))
          (sumTo n fun k => Dual.mk (m k) (d k) * Dual.const (zabs k)) present).eps := by
  let _i : NumOps Dual := dualOps f
  generalize hZ : (sumTo n fun k => Dual.mk (m k) (d k) * Dual.const (zabs k)) = bigZ
  have hZre : bigZ.re = rsum n (fun k => m k * zabs k) := by rw [← hZ, sumTo_re]; rfl
  have hidx : ∀ t ∈ constTerms (ps.map PParam.toDual) (fun k => Dual.mk (m k) (d k)) bigZ present, t.1 < n :=
    terms_idx n ps PParam.toDual hwf _ bigZ present false _ fun _ => List.subset_append_left _ _
  have hT := rsum_addTerms f n m _ (fun _ => (lit 0 : Dual)) hidx
  have hb := loop_balance f m (ps.map PParam.toDual) (fun p => lnTermsConst p (fun k => Dual.mk (m k) (d k)) bigZ present)
    (fun p => csumOf p fun k => Dual.mk (m k) (d k)) (fun _ => lit 0)
    (fun p => osConst p (fun k => Dual.mk (m k) (d k)) bigZ present) bigZ.re 0
    (by
      intro pD hpD
      obtain ⟨p, hp, rfl⟩ := List.mem_map.mp hpD
      rw [zero_mul, add_zero, p.toDual_eq]
      exact param_gd f p (hbal p hp) _ m d bigZ present)
    (lit 0) (lit 0) (lit 0)
  -- `LGAMMA[k]` is the sum of the additions plus `zabs k · CSUM`
  simp only [lgammaConst, dual_ops, zero_mul, add_zero, mul_add, ← mul_assoc, rsum_add, rsum_mul_right, ← hZre, hT,
    mul_zero, rsum_zero, zero_add]
  simp only [constTerms, osmotConst, dual_ops, mul_zero] at hb ⊢
  linear_combination hb

/-- **Gibbs–Duhem for the constant-coefficient virial part of `pitzer()`**, for every parameter list (β⁰, Cφ, θ, λ,
ψ, ζ, μ, η with the multipliers `pitzer_tidy` assigns; β¹, β², ᴱθ contribute nothing to this part), every number of
species, every composition `m`, every direction of change `d` and every presence pattern `IPRSNT`:

  `Σ_k m_k · d(ln γ_k) = d( (φ − 1) · Σ_k m_k ) = d(2 · OSMOT)`

where `d(·)` is the first-order variation along `d` (the ε-part of the model evaluated on the dual numbers
`m_k + d_k ε`), `ln γ_k = LGAMMA[k]` includes the `z_k · CSUM` term and `BIGZ = Σ m_k |z_k|` varies with `m`. -/
theorem virial_gibbs_duhem (f : TransFns Rat) (neutral : Nat → Bool) (n : Nat) (ps : List (PParam Rat))
    (hwf : ∀ p ∈ ps, p.wf n) (htidy : ∀ p ∈ ps, p.tidy f neutral) (m d zabs : Nat → Rat) (present : Nat → Bool) :
    letI := dualOps f
    rsum n (fun k => m k *
        (lgammaConst (ps.map PParam.toDual) (fun k => Dual.mk (m k) (d k)) (fun k => Dual.const (zabs k))
          (sumTo n fun k => Dual.mk (m k) (d k) * Dual.const (zabs k)) present k).eps)
      = (lit 2 * osmotConst (ps.map PParam.toDual) (fun k => Dual.mk (m k) (d k))
          (sumTo n fun k => Dual.mk (m k) (d k) * Dual.const (zabs k)) present).eps :=
  virial_gibbs_duhem_balanced f n ps hwf (fun p hp => (htidy p hp).balanced) m d zabs present


/-- non-vacuity of `virial_gibbs_duhem`'s ingredients on a concrete instance: β⁰(0,1) = 1/10, Cφ(0,1) = 1/50 with
`2·sqrt|z0 z1| = 2`, ψ(0,1,2) = 1/100 at `m = (1, 2, 3)`, `|z| = (1, 1, 1)`, varying species 0 only -/
example : letI := dualOps ⟨id, id, id, id, id, id, id, id, id, id⟩
    let ps : List (PParam Dual) :=
      [ { type := .b0, i0 := 0, i1 := 1, i2 := 3, p := .const (1 / 10), c0den := .const 0, ln0 := .const 0, ln1 := .const 0,
          ln2 := .const 0, os := .const 0, g := .const 0, gp := .const 0, ex := .const 0, etheta := .const 0, ethetap := .const 0 },
        { type := .c0, i0 := 0, i1 := 1, i2 := 3, p := .const (1 / 50), c0den := .const 2, ln0 := .const 0, ln1 := .const 0,
          ln2 := .const 0, os := .const 0, g := .const 0, gp := .const 0, ex := .const 0, etheta := .const 0, ethetap := .const 0 },
        { type := .psi, i0 := 0, i1 := 1, i2 := 2, p := .const (1 / 100), c0den := .const 0, ln0 := .const 0, ln1 := .const 0,
          ln2 := .const 0, os := .const 0, g := .const 0, gp := .const 0, ex := .const 0, etheta := .const 0, ethetap := .const 0 } ]
    let m : Nat → Dual := fun k => if k = 0 then ⟨1, 1⟩ else if k = 1 then ⟨2, 0⟩ else ⟨3, 0⟩
    let bigZ : Dual := ⟨6, 1⟩
    (lit 2 * osmotConst ps m bigZ (fun _ => true)).eps = 4 / 5 ∧
    1 * (lgammaConst ps m (fun _ => .const 1) bigZ (fun _ => true) 0).eps
      + 2 * (lgammaConst ps m (fun _ => .const 1) bigZ (fun _ => true) 1).eps
      + 3 * (lgammaConst ps m (fun _ => .const 1) bigZ (fun _ => true) 2).eps = 4 / 5 := by
  decide +kernel


/-! ## water activity, osmotic coefficient, the g-functions -/

/-- **a_w from φ**: `pitzer()` and `sit()` set `AW = exp(−Σm · φ / 55.50837)` with `φ = COSMOT` and `Σm = OSUM` the sum
of all molalities in the species list — the definition of the osmotic coefficient with `M_w = 1/55.50837 kg/mol`. -/
theorem aw_from_phi (f : TransFns Rat) (x : PzIn Rat) (y : SitIn Rat) :
    letI := ratOps f
    (pitzer x).aw = f.exp (-((pitzer x).osum * (pitzer x).cosmot) / (5550837 / 100000)) ∧
    (pitzer x).osum = sumTo x.n x.m ∧ (pitzer x).cosmot = 1 + 2 * (pitzer x).osmot / (pitzer x).osum ∧
    (sit y).aw = f.exp (-((sit y).osum * (sit y).cosmot) / (5550837 / 100000)) ∧
    (sit y).osum = sumTo y.n y.m := by
  refine ⟨?_, rfl, rfl, ?_, rfl⟩
  · simp only [pitzer, pitzerP, rat_exp, rat_lit]; congr 1; ring
  · simp only [sit, rat_exp, rat_lit]; congr 1; ring

/-- `(φ − 1)·Σm = 2·OSMOT`: the quantity the Gibbs–Duhem identity is about (partial: needs `Σm ≠ 0`, otherwise the
code divides by zero) -/
theorem cosmot_partial (osmot osum : Rat) (h : osum ≠ 0) : ((1 + 2 * osmot / osum) - 1) * osum = 2 * osmot := by
  field_simp; ring

/-- the two g-functions of the β¹/β² terms satisfy `g(y) + g′(y) = exp(−y)` as coded (`G`, `GP`), whatever `exp`
is: this is the relation `Bᵠ = B + I·B′` between the γ-side and the φ-side of the β¹ term (partial: `y ≠ 0`; at
`y = 0` the code returns 0 for both) -/
theorem g_gp_exp_partial (f : TransFns Rat) (y : Rat) (hy : y ≠ 0) :
    letI := ratOps f
    G y + GP y = f.exp (-y) := by
  simp only [G, GP, isZero_rat, hy, decide_false, Bool.false_eq_true, if_false, rat_lit, rat_exp]
  field_simp
  ring

/-- the full statement fails at `y = 0`: both functions return 0 there, `exp 0` need not be 0 -/
example : letI := ratOps ⟨id, id, id, fun _ => 1, id, id, id, id, id, id⟩
    G (0 : Rat) + GP 0 ≠ (fun _ => (1 : Rat)) (-0) := by
  norm_num [G, GP, isZero]

/-! ## Gibbs–Duhem for the whole `pitzer()` skeleton -/

section full
variable (f : TransFns Rat)

@[simp] theorem d_sqrt_re (x : Dual) : (@NumOps.sqrt Dual (dualOps f) x).re = f.sqrt x.re := rfl
@[simp] theorem d_sqrt_eps (x : Dual) : (@NumOps.sqrt Dual (dualOps f) x).eps = x.eps / (2 * f.sqrt x.re) := rfl
@[simp] theorem d_ln_re (x : Dual) : (@NumOps.ln Dual (dualOps f) x).re = f.ln x.re := rfl
@[simp] theorem d_ln_eps (x : Dual) : (@NumOps.ln Dual (dualOps f) x).eps = x.eps / x.re := rfl
@[simp] theorem d_exp_re (x : Dual) : (@NumOps.exp Dual (dualOps f) x).re = f.exp x.re := rfl
@[simp] theorem d_exp_eps (x : Dual) : (@NumOps.exp Dual (dualOps f) x).eps = f.exp x.re * x.eps := rfl

attribute [dual_ops] d_sqrt_re d_sqrt_eps d_ln_re d_ln_eps d_exp_re d_exp_eps

/-- Debye–Hückel part: `Σ_k m_k z_k² · dF = 2 I · dF = d(2 · OSMOT₀)` for `F = fDH`, with `√I · √I = I`
(hypothesis on the uninterpreted `sqrt`) and the derivative rules of `sqrt`, `ln` carried by the dual numbers -/
theorem dh_gd (a0 I dI : Rat) (hs : f.sqrt I * f.sqrt I = I) (hs0 : f.sqrt I ≠ 0)
    (hb : 1 + 12 / 10 * f.sqrt I ≠ 0) :
    letI := dualOps f
    2 * I * (fDH (Dual.const a0) (sqrt (Dual.mk I dI)) (lit (12 / 10))).eps
      = 2 * (osmot0 (Dual.const a0) (Dual.mk I dI) (sqrt (Dual.mk I dI))).eps := by
  simp only [fDH, osmot0, dual_ops, mul_zero, zero_mul, add_zero, zero_add, neg_zero, sub_zero]
  generalize f.sqrt I = s at hs hs0 hb
  subst hs
  have hb' : (10 : Rat) + s * 12 ≠ 0 := fun h => hb (by linarith)
  field_simp
  ring

/-- the input of `pitzer()` over the dual numbers built from rational data: molalities `m_k + d_k ε`, ionic strength
`I + dI ε`, constant charges / `A0` / MacInnes parameters, parameters with their ionic-strength functions -/
def dualInput (n : Nat) (m d z : Nat → Rat) (I dI a0 mt : Rat) (icon : Bool) (ic : Nat) (ue : Bool)
    (mc0 mc1 mcc : Option Rat) (ps : List (PParam Rat × DData)) : PzIn Dual :=
  { n := n, m := fun k => Dual.mk (m k) (d k), z := fun k => Dual.const (z k), mu := Dual.mk I dI, a0 := Dual.const a0,
    minTotal := Dual.const mt, icon := icon, ic := ic, useEtheta := ue, mcb0 := mc0.map Dual.const,
    mcb1 := mc1.map Dual.const, mcc0 := mcc.map Dual.const, ps := ps.map fun pq => pq.1.toDualI pq.2 }

theorem pitzer_gibbs_duhem_balanced (n : Nat) (m d z : Nat → Rat) (I dI a0 mt : Rat) (icon : Bool) (ic : Nat)
    (ue : Bool) (mc0 mc1 mcc : Option Rat) (ps : List (PParam Rat × DData))
    (hwf : ∀ pq ∈ ps, pq.1.wf n) (hbal : ∀ pq ∈ ps, pq.1.balanced) (hrel : ∀ pq ∈ ps, IRel I dI pq.1 pq.2)
    (hI2 : 2 * I = rsum n (fun k => m k * (z k * z k)))
    (hneut : icon = true → rsum n (fun k => m k * z k) = 0)
    (hs : f.sqrt I * f.sqrt I = I) (hs0 : f.sqrt I ≠ 0) (hb : 1 + 12 / 10 * f.sqrt I ≠ 0) :
    letI := dualOps f
    rsum n (fun k => m k * ((pitzer (dualInput n m d z I dI a0 mt icon ic ue mc0 mc1 mcc ps)).lgamma k).eps)
      = (lit 2 * (pitzer (dualInput n m d z I dI a0 mt icon ic ue mc0 mc1 mcc ps)).osmot).eps := by
  let _i : NumOps Dual := dualOps f
  have hI : I ≠ 0 := fun h => hs0 (mul_self_eq_zero.mp (hs.trans h))
  set X := dualInput n m d z I dI a0 mt icon ic ue mc0 mc1 mcc ps
  set bigZ := bigZOf X with hZ
  set pres := presentOf X
  set pc : PCorr Dual := { active := false, b1 := lit (12 / 10), b2 := lit (12 / 10) }
  set F := fTotal X (fDH X.a0 (sqrt X.mu) (lit (12 / 10)))
  set C := csumTotal X
  set T := allTerms X.ps X.m bigZ pres X.useEtheta
  have habs : ∀ k, absv (X.z k) = Dual.const |z k| := fun k => absv_const f (z k)
  have hZre : bigZ.re = rsum n (fun k => m k * |z k|) := by
    rw [hZ, bigZOf, sumTo_re]
    exact rsum_congr n _ _ fun k _ => by rw [habs k]; rfl
  -- `LGAMMA[k]` before the MacInnes scaling: the additions, `z² F` and `|z| CSUM`; the first line is `lg1` at `patm_x ≤ 1`
  have hlg1 : ∀ k, (lg1 X pc k).eps = (addTerms T k (lit 0)).eps + (z k * z k) * F.eps + |z k| * C.eps := by
    intro k
    show (if isZero (absv (X.z k)) = true then addTerms T k (lit 0)
      else addTerms T k (lit 0) + (absv (X.z k) * absv (X.z k) * F + absv (X.z k) * C)).eps = _
    rw [habs k, isZero_dual, d_const_re]
    by_cases h0 : z k = 0
    · simp [h0]
    · simp only [abs_eq_zero, h0, decide_false, Bool.false_eq_true, if_false, dual_ops, mul_zero, zero_mul, add_zero,
        abs_mul_abs_self, add_assoc]
  have hidx : ∀ t ∈ T, t.1 < n :=
    terms_idx n ps (fun pq => pq.1.toDualI pq.2) hwf _ bigZ pres ue _ fun _ => List.Subset.refl _
  have hT := rsum_addTerms f n m T (fun _ => (lit 0 : Dual)) hidx
  -- the left-hand side; the MacInnes term `z_k · PHIMAC` drops out by electroneutrality
  have hk : ∀ k, ((pitzer X).lgamma k).eps = (lg1 X pc k).eps + z k * (if icon then (phimac X pc).eps else 0) := by
    intro k
    show (if icon = true then lg1 X pc k + Dual.const (z k) * phimac X pc else lg1 X pc k).eps = _
    cases icon
    · simp
    · simp
  have hL : rsum n (fun k => m k * ((pitzer X).lgamma k).eps) = wsum m T + 2 * I * F.eps + bigZ.re * C.eps := by
    have hI2' : rsum n (fun k => m k * z k * z k) = 2 * I := by simp only [mul_assoc]; exact hI2.symm
    simp only [hk, hlg1, mul_add, ← mul_assoc, rsum_add, rsum_mul_right, hT, hI2', ← hZre, d_lit_eps, mul_zero, rsum_zero]
    cases icon
    · simp
    · simp [hneut rfl]
  -- the parameter loop: `T`, `C`, `F` and `OSMOT` are, by definition (`allTerms`, `csumTotal`, `fTotal`, `osmotTotal`), the
  -- additions and the three accumulators of one loop over `X.ps`, started at `0`, `fDH` and `osmot0`
  have hps : wsum m T + bigZ.re * C.eps + 2 * I * F.eps - 2 * ((pitzer X).osmot).eps
      = bigZ.re * (lit 0 : Dual).eps + 2 * I * (fDH (Dual.const a0) (sqrt (Dual.mk I dI)) (lit (12 / 10))).eps
        - 2 * (osmot0 (Dual.const a0) (Dual.mk I dI) (sqrt (Dual.mk I dI))).eps :=
    loop_balance f m (ps.map fun pq => pq.1.toDualI pq.2)
      (fun p => lnTermsConst p (fun k => Dual.mk (m k) (d k)) bigZ pres ++ lnTermsI p (fun k => Dual.mk (m k) (d k)) ue)
      (fun p => csumOf p fun k => Dual.mk (m k) (d k)) (fun p => fVar p (fun k => Dual.mk (m k) (d k)) (Dual.mk I dI) ue)
      (fun p => osConst p (fun k => Dual.mk (m k) (d k)) bigZ pres + osI p (fun k => Dual.mk (m k) (d k)) (Dual.mk I dI) ue)
      bigZ.re (2 * I)
      (by
        intro pD hpD
        obtain ⟨pq, hpq, rfl⟩ := List.mem_map.mp hpD
        have h1 := param_gd f pq.1 (hbal pq hpq) pq.2 m d bigZ pres
        have h2 := param_gd_I f pq.1 pq.2 I dI hI (hrel pq hpq) m d ue
        rw [wsum_append, d_add_eps]
        linear_combination h1 + h2)
      (lit 0) _ _
  have hdh := dh_gd f a0 I dI hs hs0 hb
  simp only [dual_ops, zero_mul, add_zero, mul_zero] at hps ⊢
  linear_combination hL + hps + hdh

/-- **Gibbs–Duhem for the whole `pitzer()` skeleton** (`patm_x ≤ 1`): Debye–Hückel `F`, β⁰, β¹·g, β²·g, Cφ, θ, ᴱθ, λ,
ψ, ζ, μ, η, the `z·CSUM` and `z²·F` terms and the MacInnes scaling, for every parameter list, composition `m`,
direction `d`, variation `dI` of the ionic strength and presence pattern:

  `Σ_k m_k · d(LGAMMA[k]) = d(2 · OSMOT)`      (`2·OSMOT = (COSMOT − 1)·OSUM`, see `aw_from_phi`)

Hypotheses, all explicit: `2I = Σ m_k z_k²` (the `mu_x` the code uses is the ionic strength of the composition),
electroneutrality when MacInnes scaling is on, `√I·√I = I`, the derivative rules of `sqrt`/`ln` (carried by the dual
numbers), and for every parameter the relations `IRel` between the numbers `g, g′, exp, ᴱθ, ᴱθ′` it carries. -/
theorem pitzer_gibbs_duhem (neutral : Nat → Bool) (n : Nat) (m d z : Nat → Rat) (I dI a0 mt : Rat) (icon : Bool) (ic : Nat)
    (ue : Bool) (mc0 mc1 mcc : Option Rat) (ps : List (PParam Rat × DData))
    (hwf : ∀ pq ∈ ps, pq.1.wf n) (htidy : ∀ pq ∈ ps, pq.1.tidy f neutral) (hrel : ∀ pq ∈ ps, IRel I dI pq.1 pq.2)
    (hI2 : 2 * I = rsum n (fun k => m k * (z k * z k)))
    (hneut : icon = true → rsum n (fun k => m k * z k) = 0)
    (hs : f.sqrt I * f.sqrt I = I) (hs0 : f.sqrt I ≠ 0) (hb : 1 + 12 / 10 * f.sqrt I ≠ 0) :
    letI := dualOps f
    rsum n (fun k => m k * ((pitzer (dualInput n m d z I dI a0 mt icon ic ue mc0 mc1 mcc ps)).lgamma k).eps)
      = (lit 2 * (pitzer (dualInput n m d z I dI a0 mt icon ic ue mc0 mc1 mcc ps)).osmot).eps :=
  pitzer_gibbs_duhem_balanced f n m d z I dI a0 mt icon ic ue mc0 mc1 mcc ps hwf (fun pq hpq => (htidy pq hpq).balanced) hrel
    hI2 hneut hs hs0 hb

end full

def exF : TransFns Rat := ⟨id, id, id, id, id, id, id, id, id, id⟩
def exB1 : PParam Rat :=
  ⟨.b1, 0, 1, 2, 1 / 5, 2, 0, 0, 0, 0, 1 / 2, 1 / 4, 3 / 4, 0, 0⟩
def exEth : PParam Rat :=
  ⟨.etheta, 0, 1, 2, 1, 2, 0, 0, 0, 0, 0, 0, 0, 1 / 10, 1 / 20⟩
def exPs : List (PParam Rat × DData) :=
  [(exB1, { dg := 1 / 8, dgp := 1 / 3, dex := 11 / 24, dE := 0, dEp := 0 }),
   (exEth, { dg := 0, dgp := 0, dex := 0, dE := 1 / 40, dEp := 7 })]

/-- non-vacuity of `pitzer_gibbs_duhem`: its hypotheses hold together on a concrete instance (two ions `z = ±1`, `m = (1, 1)`,
`I = 1` with `sqrt 1 = 1`, a β¹ and an ᴱθ parameter with consistent derivative data, MacInnes scaling on) -/
example : letI := dualOps exF
    rsum 2 (fun k => (fun _ => (1 : Rat)) k *
        ((pitzer (dualInput 2 (fun _ => 1) (fun k => if k = 0 then 1 else 0) (fun k => if k = 0 then 1 else -1) 1 (1 / 2) (2 / 5) 0
          true 1 true (some (1 / 20)) none none exPs)).lgamma k).eps)
      = (lit 2 * (pitzer (dualInput 2 (fun _ => 1) (fun k => if k = 0 then 1 else 0) (fun k => if k = 0 then 1 else -1) 1 (1 / 2) (2 / 5) 0
          true 1 true (some (1 / 20)) none none exPs)).osmot).eps :=
  pitzer_gibbs_duhem exF (fun _ => false) 2 (fun _ => 1) (fun k => if k = 0 then 1 else 0) (fun k => if k = 0 then 1 else -1)
    1 (1 / 2) (2 / 5) 0 true 1 true (some (1 / 20)) none none exPs
    (by intro pq h; simp [exPs] at h; rcases h with rfl | rfl <;> simp [PParam.wf, exB1, exEth, uses3])
    (by intro pq h; simp [exPs] at h; rcases h with rfl | rfl <;> simp [PParam.tidy, exB1, exEth])
    (by intro pq h; simp [exPs] at h; rcases h with rfl | rfl <;> norm_num [IRel, exB1, exEth])
    (by norm_num [rsum]) (by intro _; norm_num [rsum]) (by simp [exF]) (by simp [exF]) (by norm_num [exF])


/-! ## the relations `IRel` assumes, for the coded functions: `JPRIME` is `X · dJAY/dX`, `ethetap` is `d etheta / dI`, `G` and `GP`

Stated for `jay`, `jprime`, `ethetaOf`, `ethetapOf`, `G`, `GP` of `Model/Pitzer.lean` (equal to the generated definitions by
`C16Gen.jay_src_eq` … below).  No `IRel` is concluded here: a `PParam` carries `g`, `gp`, `ex`, `etheta`, `ethetap` as numbers, and
`pitzer_gibbs_duhem` keeps `IRel` as a hypothesis on them. -/

section derivs
variable (f : TransFns Rat)

/-- **the Clenshaw recurrences of `ETHETA_PARAMS`**: run on `z + e·ε` with constant coefficients, `BK[0] − BK[2]` has
first-order part `e · (DK[0] − DK[2])`, where `DK` is the recurrence the code runs next to `BK` — provided the never
assigned `DK[20]` is 0 -/
theorem csRun_deriv (z e : Rat) (c : Nat → Rat) :
    letI := dualOps f
    ((csRun (Dual.mk z e) (fun i => Dual.const (c i)) (Dual.const 0)).b0
        - (csRun (Dual.mk z e) (fun i => Dual.const (c i)) (Dual.const 0)).b2).eps
      = e * ((@csRun Rat (ratOps f) z c 0).d0 - (@csRun Rat (ratOps f) z c 0).d2) := by
  have h := csRun_inv f z e c
  rw [d_sub_eps, h.b0_eps, h.b2_eps]; ring

/-- `L_DZ` is `X/2 · dL_Z/dX` (the code's `pow(X, a)` is `exp(a ln X)`) -/
theorem lzOf_dual (X d : Rat) (hX : X ≠ 0) :
    @lzOf Dual (dualOps f) _ (Dual.mk X d) = Dual.mk (@lzOf Rat (ratOps f) _ X) (2 * d * @ldzOf Rat (ratOps f) _ X / X) := by
  simp only [lzOf, ldzOf, d_le, d_lit_re, rat_lit]
  by_cases h : X ≤ 1
  all_goals
    simp only [h, if_true, if_false]
    apply dual_ext
    · simp only [powf, dual_ops, rat_ops]
    · simp only [powf, dual_ops, rat_ops]
      field_simp
      ring

/-- **`JAY` on `X + d·ε`**: the first-order part is `d · JPRIME / X` -/
theorem jay_dual (X d : Rat) (hX : X ≠ 0) :
    @jay Dual (dualOps f) _ (Dual.mk X d)
      = Dual.mk (@jay Rat (ratOps f) _ X) (d * @jprime Rat (ratOps f) _ X 0 / X) := by
  have h := csRun_inv f (@lzOf Rat (ratOps f) _ X) (2 * d * @ldzOf Rat (ratOps f) _ X / X) (@akCoef Rat (ratOps f) _ X)
  unfold jay jprime
  rw [lzOf_dual f X d hX, akCoef_dual, lit_dual]
  apply dual_ext
  · simp only [dual_ops, rat_ops, h.b0_re, h.b2_re]
  · simp only [dual_ops, rat_ops, h.b0_eps, h.b2_eps]
    field_simp
    ring

/-- chain-rule form: along any variation `d` of `X`, `X · ε(jay (X + d ε)) = d · jprime X 0` -/
theorem jay_eps (X d : Rat) (hX : X ≠ 0) :
    X * (@jay Dual (dualOps f) _ (Dual.mk X d)).eps = d * @jprime Rat (ratOps f) _ X 0 := by
  rw [jay_dual f X d hX, d_mk_eps]
  field_simp

/-- **`JPRIME` is `X · dJAY/dX`**: for the series as coded (both coefficient tables, both changes of variable), with the
derivative rules of `exp` and `ln` (the code's `pow(X, a)` is `exp(a ln X)`) and `DK[20] = 0`:
`jprime X 0 = X · ε(jay (X + ε))`.  This is the relation `IRel`'s `d(ᴱθ) = ᴱθ′ dI` rests on. -/
theorem jprime_is_x_times_djay (X : Rat) (hX : X ≠ 0) :
    @jprime Rat (ratOps f) _ X 0 = X * (@jay Dual (dualOps f) _ (Dual.mk X 1)).eps := by
  rw [jay_eps f X 1 hX, one_mul]

/-- **`ethetap` is the derivative of `etheta` with respect to the ionic strength**, for the source's `ETHETAS` on top of the
source's `ETHETA_PARAMS`: evaluated on `I + dI ε` (with `√I·√I = I`, the derivative rules of `sqrt`, `exp`, `ln`, and
`DK[20] = 0`), the first-order part of `etheta` is `dI` times the `ethetap` the code computes.  This is the relation
`dE = ethetap · dI` of `IRel`, for the coded functions. -/
theorem etheta_derivative (zj zk a0 I dI : Rat) (hs : f.sqrt I * f.sqrt I = I) (hs0 : f.sqrt I ≠ 0) (ha : a0 ≠ 0)
    (hzj : zj ≠ 0) (hzk : zk ≠ 0) :
    letI := dualOps f
    let xcon : Dual := (lit 6 * Dual.const a0) * sqrt (Dual.mk I dI)
    let x : Rat := 6 * a0 * f.sqrt I
    (ethetaOf (Dual.const zj) (Dual.const zk) (Dual.mk I dI) (jay (xcon * (Dual.const zj * Dual.const zk)))
        (jay ((xcon * Dual.const zj) * Dual.const zj)) (jay ((xcon * Dual.const zk) * Dual.const zk))).eps
      = dI * @ethetapOf Rat (ratOps f) _ zj zk I (@jay Rat (ratOps f) _ (x * (zj * zk))) (@jay Rat (ratOps f) _ ((x * zj) * zj))
          (@jay Rat (ratOps f) _ ((x * zk) * zk)) (@jprime Rat (ratOps f) _ (x * (zj * zk)) 0)
          (@jprime Rat (ratOps f) _ ((x * zj) * zj) 0) (@jprime Rat (ratOps f) _ ((x * zk) * zk) 0) := by
  intro xcon x
  let _i : NumOps Dual := dualOps f
  let _r : NumOps Rat := ratOps f
  have hI : I ≠ 0 := fun h => hs0 (mul_self_eq_zero.mp (hs.trans h))
  have hx : x ≠ 0 := mul_ne_zero (mul_ne_zero (by norm_num) ha) hs0
  -- each argument of `jay` is `x·c` with first-order part `x·c · dI/(2I)`
  have key : ∀ (XD : Dual) (c : Rat), c ≠ 0 → XD.re = x * c → XD.eps = 6 * a0 * (dI / (2 * f.sqrt I)) * c →
      jay XD = Dual.mk (jay (x * c)) (dI / (2 * I) * jprime (x * c) 0) := by
    intro XD c hc hre heps
    rw [show XD = Dual.mk (x * c) (6 * a0 * (dI / (2 * f.sqrt I)) * c) from dual_ext hre heps,
      jay_dual f _ _ (mul_ne_zero hx hc)]
    congr 1
    simp only [x]
    generalize f.sqrt I = s at hs hs0
    subst hs
    field_simp
  rw [key _ (zj * zk) (mul_ne_zero hzj hzk) (by simp only [xcon, x, dual_ops]) (by simp only [xcon, dual_ops]; ring),
    key _ (zj * zj) (mul_ne_zero hzj hzj) (by simp only [xcon, x, dual_ops]; ring) (by simp only [xcon, dual_ops]; ring),
    key _ (zk * zk) (mul_ne_zero hzk hzk) (by simp only [xcon, x, dual_ops]; ring) (by simp only [xcon, dual_ops]; ring),
    show x * zj * zj = x * (zj * zj) by ring, show x * zk * zk = x * (zk * zk) by ring]
  simp only [ethetapOf, ethetaOf, isZero_rat, isZero_dual, d_sub_re, d_const_re, decide_eq_true_eq]
  by_cases hz : zj - zk = 0
  · simp [hz]
  · simp only [hz, decide_false, Bool.false_eq_true, if_false, dual_ops, rat_ops]
    field_simp
    ring

/-- **the hypotheses `IRel` makes about β¹/β², derived from the coded `G`, `GP`**: on `y + dy ε` with `y = α√I`,
`dy = α dI/(2√I)` (so `dI/I = 2 dy / y`), the first-order part of `G` is `GP(y) · dI / I`, and `exp(−y) = G + GP` holds for
the first-order parts too — with the derivative rule of `exp` only -/
theorem g_derivative (y dy : Rat) (hy : y ≠ 0) :
    letI := dualOps f
    (G (Dual.mk y dy)).eps = (@GP Rat (ratOps f) _ y) * (2 * dy / y) ∧
    (exp (-(Dual.mk y dy))).re = (G (Dual.mk y dy)).re + (GP (Dual.mk y dy)).re ∧
    (exp (-(Dual.mk y dy))).eps = (G (Dual.mk y dy)).eps + (GP (Dual.mk y dy)).eps := by
  refine ⟨?_, ?_, ?_⟩
  all_goals
    simp only [G, GP, isZero_rat, isZero_dual, hy, decide_false, Bool.false_eq_true, if_false, dual_ops, rat_ops]
    field_simp
    ring

end derivs

end PhreeqcVerif.Pitzer

/-! ## the source the models were written from (translator `tools/gen_pitzer.py`)

The translator parses the functions with clang and executes them symbolically; what it regenerates into
`Gen/GammaSrc.lean` on every run is, per function, the operator tree of every quantity the function stores outside its
locals (locals, hoisted sub-expressions, named constants and one-line static helpers inlined; `if` / `switch` /
`continue` / `return` as guards; loops as folds; independent statements in no particular order).  Each theorem says that
these trees are the ones listed here — the ones the Lean model transcribes.  A behaviour-preserving rewrite of the C++
leaves them unchanged; a change of an operator, operand, constant, guard or order of evaluation of a stored quantity
makes the obligation fail, and the check then runs its failing-input search. -/
namespace PhreeqcVerif.C16Src
open PhreeqcVerif.Gen.GammaSrc

/-- `pitzer()`: the assembly — the loops over `s_list`, `param_list`, `ion_list`, the stores into `LGAMMA[]`, the MacInnes scaling — transcribed by `Pitzer.pitzerP`, `lg1`, `phimac`, `gamclm`, `presentOf`, `bigZOf` (the per-type additions, start values, `COSMOT`, `AW` are proved equal to generated definitions in `C16Gen`) -/
theorem pitzerNF_as_modelled : pitzerNF = [
  ("$ret", "1"),
  ("AW", "t1 := ((spec[s_list[$k1]] != NULL) && (spec[s_list[$k1]]->in == 1)); t2 := [s_list[$k1]]; t3 := store($prev1{M[]}, t2 := 0.0); t4 := (((spec[s_list[$k1]]->type == 5) || (spec[s_list[$k1]]->type == 6)) || (spec[s_list[$k1]]->type == 7)); t5 := ite(t4, 0.0, under(spec[s_list[$k1]]->lm)); t6 := fold($k1 from 0 ++ while ($k1 < size(s_list)); init M[]; step ite(t1, store(t3, t2 := t5), t3)); t7 := fold($k1 from 0 ++ while ($k1 < size(s_list)); init 0.0; step ($prev1{OSUM} + sel(t6, t2))); t8 := (sel(t6, [pitz_params[param_list[$k1]]->ispec[0]]) * sel(t6, [pitz_params[param_list[$k1]]->ispec[1]])); t9 := (t8 * pitz_params[param_list[$k1]]->p); t10 := ($prev1{OSMOT} + t9); t11 := ite((pitz_params[param_list[$k1]]->p != 0.0), ($prev1{OSMOT} + (t9 * exp((-pitz_params[param_list[$k1]]->alpha * sqrt(mu_x))))), $prev1{OSMOT}); t12 := store($prev1{IPRSNT[]}, t2 := 0); t13 := fold($k1 from 0 ++ while ($k1 < size(s_list)); init IPRSNT[]; step ite(t1, ite((t5 > MIN_TOTAL), store(t12, t2 := !t4), t12), t12)); t14 := [pitz_params[param_list[$k1]]->ispec[2]]; t15 := (sel(ite((ICON == 1), store(t13, [IC] := 1), t13), t14) == 0); t16 := ((t8 * sel(t6, t14)) * pitz_params[param_list[$k1]]->p); t17 := ite(t15, $prev1{OSMOT}, ($prev1{OSMOT} + t16)); exp(((-t7 * (1.0 + ((2.0 * fold($k1 from 0 ++ while ($k1 < size(param_list)); init ((-A0 * pow(mu_x, 1.5)) / (1.0 + (1.2 * sqrt(mu_x)))); step switch(pitz_params[param_list[$k1]]->type; TYPE_B0 -> t10; TYPE_B1 -> t11; TYPE_B2 -> t11; TYPE_C0 -> ($prev1{OSMOT} + (((t8 * fold($k1 from 0 ++ while ($k1 < size(s_list)); init 0.0; step ($prev1{XX} + (sel(t6, t2) * fabs(spec[s_list[$k1]]->z))))) * pitz_params[param_list[$k1]]->p) / (2.0 * sqrt(fabs((spec[pitz_params[param_list[$k1]]->ispec[0]]->z * spec[pitz_params[param_list[$k1]]->ispec[1]]->z)))))); TYPE_ETA -> t17; TYPE_ETHETA -> ite((use_etheta == 1), ($prev1{OSMOT} + (t8 * (pitz_params[param_list[$k1]]->thetas->etheta + (mu_x * pitz_params[param_list[$k1]]->thetas->ethetap)))), $prev1{OSMOT}); TYPE_LAMBDA -> ($prev1{OSMOT} + (t9 * pitz_params[param_list[$k1]]->os_coef)); TYPE_MU -> ite(t15, $prev1{OSMOT}, ($prev1{OSMOT} + (t16 * pitz_params[param_list[$k1]]->os_coef))); TYPE_PSI -> t17; TYPE_THETA -> t10; TYPE_ZETA -> t17; else -> $prev1{OSMOT}))) / t7))) / 55.50837))"),
  ("COSMOT", "t1 := ((spec[s_list[$k1]] != NULL) && (spec[s_list[$k1]]->in == 1)); t2 := [s_list[$k1]]; t3 := store($prev1{M[]}, t2 := 0.0); t4 := (((spec[s_list[$k1]]->type == 5) || (spec[s_list[$k1]]->type == 6)) || (spec[s_list[$k1]]->type == 7)); t5 := ite(t4, 0.0, under(spec[s_list[$k1]]->lm)); t6 := fold($k1 from 0 ++ while ($k1 < size(s_list)); init M[]; step ite(t1, store(t3, t2 := t5), t3)); t7 := (sel(t6, [pitz_params[param_list[$k1]]->ispec[0]]) * sel(t6, [pitz_params[param_list[$k1]]->ispec[1]])); t8 := (t7 * pitz_params[param_list[$k1]]->p); t9 := ($prev1{OSMOT} + t8); t10 := ite((pitz_params[param_list[$k1]]->p != 0.0), ($prev1{OSMOT} + (t8 * exp((-pitz_params[param_list[$k1]]->alpha * sqrt(mu_x))))), $prev1{OSMOT}); t11 := store($prev1{IPRSNT[]}, t2 := 0); t12 := fold($k1 from 0 ++ while ($k1 < size(s_list)); init IPRSNT[]; step ite(t1, ite((t5 > MIN_TOTAL), store(t11, t2 := !t4), t11), t11)); t13 := [pitz_params[param_list[$k1]]->ispec[2]]; t14 := (sel(ite((ICON == 1), store(t12, [IC] := 1), t12), t13) == 0); t15 := ((t7 * sel(t6, t13)) * pitz_params[param_list[$k1]]->p); t16 := ite(t14, $prev1{OSMOT}, ($prev1{OSMOT} + t15)); (1.0 + ((2.0 * fold($k1 from 0 ++ while ($k1 < size(param_list)); init ((-A0 * pow(mu_x, 1.5)) / (1.0 + (1.2 * sqrt(mu_x)))); step switch(pitz_params[param_list[$k1]]->type; TYPE_B0 -> t9; TYPE_B1 -> t10; TYPE_B2 -> t10; TYPE_C0 -> ($prev1{OSMOT} + (((t7 * fold($k1 from 0 ++ while ($k1 < size(s_list)); init 0.0; step ($prev1{XX} + (sel(t6, t2) * fabs(spec[s_list[$k1]]->z))))) * pitz_params[param_list[$k1]]->p) / (2.0 * sqrt(fabs((spec[pitz_params[param_list[$k1]]->ispec[0]]->z * spec[pitz_params[param_list[$k1]]->ispec[1]]->z)))))); TYPE_ETA -> t16; TYPE_ETHETA -> ite((use_etheta == 1), ($prev1{OSMOT} + (t7 * (pitz_params[param_list[$k1]]->thetas->etheta + (mu_x * pitz_params[param_list[$k1]]->thetas->ethetap)))), $prev1{OSMOT}); TYPE_LAMBDA -> ($prev1{OSMOT} + (t8 * pitz_params[param_list[$k1]]->os_coef)); TYPE_MU -> ite(t14, $prev1{OSMOT}, ($prev1{OSMOT} + (t15 * pitz_params[param_list[$k1]]->os_coef))); TYPE_PSI -> t16; TYPE_THETA -> t9; TYPE_ZETA -> t16; else -> $prev1{OSMOT}))) / fold($k1 from 0 ++ while ($k1 < size(s_list)); init 0.0; step ($prev1{OSUM} + sel(t6, t2)))))"),
  ("IPRSNT[]", "t1 := (((spec[s_list[$k1]]->type == 5) || (spec[s_list[$k1]]->type == 6)) || (spec[s_list[$k1]]->type == 7)); t2 := [s_list[$k1]]; t3 := store($prev1{IPRSNT[]}, t2 := 0); t4 := fold($k1 from 0 ++ while ($k1 < size(s_list)); init IPRSNT[]; step ite(((spec[s_list[$k1]] != NULL) && (spec[s_list[$k1]]->in == 1)), ite((ite(t1, 0.0, under(spec[s_list[$k1]]->lm)) > MIN_TOTAL), store(t3, t2 := !t1), t3), t3)); ite((ICON == 1), store(t4, [IC] := 1), t4)"),
  ("LGAMMA[]", "t1 := [s_list[$k1]]; t2 := [pitz_params[param_list[$k1]]->ispec[0]]; t3 := sel($prev1{LGAMMA[]}, t2); t4 := ((spec[s_list[$k1]] != NULL) && (spec[s_list[$k1]]->in == 1)); t5 := store($prev1{M[]}, t1 := 0.0); t6 := (((spec[s_list[$k1]]->type == 5) || (spec[s_list[$k1]]->type == 6)) || (spec[s_list[$k1]]->type == 7)); t7 := ite(t6, 0.0, under(spec[s_list[$k1]]->lm)); t8 := fold($k1 from 0 ++ while ($k1 < size(s_list)); init M[]; step ite(t4, store(t5, t1 := t7), t5)); t9 := [pitz_params[param_list[$k1]]->ispec[1]]; t10 := ((sel(t8, t9) * 2.0) * pitz_params[param_list[$k1]]->p); t11 := store($prev1{LGAMMA[]}, t2 := (t3 + t10)); t12 := ((sel(t8, t2) * 2.0) * pitz_params[param_list[$k1]]->p); t13 := (pitz_params[param_list[$k1]]->p != 0.0); t14 := (pitz_params[param_list[$k1]]->alpha * sqrt(mu_x)); t15 := store($prev1{LGAMMA[]}, t2 := (t3 + (t10 * G(t14)))); t16 := ite(t13, store(t15, t9 := (sel(t15, t9) + (t12 * G(t14)))), $prev1{LGAMMA[]}); t17 := fold($k1 from 0 ++ while ($k1 < size(s_list)); init 0.0; step ($prev1{XX} + (sel(t8, t1) * fabs(spec[s_list[$k1]]->z)))); t18 := (2.0 * sqrt(fabs((spec[pitz_params[param_list[$k1]]->ispec[0]]->z * spec[pitz_params[param_list[$k1]]->ispec[1]]->z)))); t19 := store($prev1{LGAMMA[]}, t2 := (t3 + (((sel(t8, t9) * t17) * pitz_params[param_list[$k1]]->p) / t18))); t20 := store($prev1{IPRSNT[]}, t1 := 0); t21 := fold($k1 from 0 ++ while ($k1 < size(s_list)); init IPRSNT[]; step ite(t4, ite((t7 > MIN_TOTAL), store(t20, t1 := !t6), t20), t20)); t22 := [pitz_params[param_list[$k1]]->ispec[2]]; t23 := (sel(ite((ICON == 1), store(t21, [IC] := 1), t21), t22) == 0); t24 := ((sel(t8, t9) * sel(t8, t22)) * pitz_params[param_list[$k1]]->p); t25 := store($prev1{LGAMMA[]}, t2 := ite(t23, t3, (t3 + t24))); t26 := ((sel(t8, t2) * sel(t8, t22)) * pitz_params[param_list[$k1]]->p); t27 := store(t25, t9 := ite(t23, sel(t25, t9), (sel(t25, t9) + t26))); t28 := sel(t27, t22); t29 := (sel(t8, t2) * sel(t8, t9)); t30 := (t29 * pitz_params[param_list[$k1]]->p); t31 := store(t27, t22 := ite(t23, t28, (t28 + t30))); t32 := (use_etheta == 1); t33 := (2.0 * sel(t8, t9)); t34 := store($prev1{LGAMMA[]}, t2 := (t3 + (t33 * pitz_params[param_list[$k1]]->thetas->etheta))); t35 := (2.0 * sel(t8, t2)); t36 := store($prev1{LGAMMA[]}, t2 := (t3 + ((sel(t8, t9) * pitz_params[param_list[$k1]]->p) * pitz_params[param_list[$k1]]->ln_coef[0]))); t37 := store($prev1{LGAMMA[]}, t2 := ite(t23, t3, (t3 + (t24 * pitz_params[param_list[$k1]]->ln_coef[0])))); t38 := store(t37, t9 := ite(t23, sel(t37, t9), (sel(t37, t9) + (t26 * pitz_params[param_list[$k1]]->ln_coef[1])))); t39 := sel(t38, t22); t40 := store($prev1{LGAMMA[]}, t2 := (t3 + (t33 * pitz_params[param_list[$k1]]->p))); t41 := [ion_list[$k1]]; t42 := fabs(spec[ion_list[$k1]]->z); t43 := (patm_x > 1.0); t44 := ((7e-05 + (1.93e-09 * pow((tk_x - 250.0), 2.0))) * patm_x); t45 := (1.2 - ite((t44 > 0.2), 0.2, t44)); t46 := (1.0 + (t45 * sqrt(mu_x))); t47 := (1.0 + (1.2 * sqrt(mu_x))); t48 := (-A0 * ((sqrt(mu_x) / t47) + ((2.0 * log(t47)) / 1.2))); t49 := ite(t43, ite((t45 != 0), (-A0 * ((sqrt(mu_x) / t46) + ((2.0 * log(t46)) / t45))), t48), t48); t50 := switch(pitz_params[param_list[$k1]]->type; TYPE_ETA -> !t23; TYPE_MU -> !t23; TYPE_PSI -> !t23; TYPE_ZETA -> !t23; else -> 1); t51 := ite(t13, ((t30 * GP(t14)) / mu_x), 0); t52 := switch(pitz_params[param_list[$k1]]->type; TYPE_B1 -> t51; TYPE_B2 -> t51; TYPE_ETHETA -> ite(t32, (t29 * pitz_params[param_list[$k1]]->thetas->ethetap), 0); else -> 0); t53 := ite((tk_x > 263.0), ((9.65e-10 * pow((tk_x - 263.0), 2.773)) * pow(patm_x, 0.623)), t44); t54 := (1.2 - ite((t53 > 0.2), 0.2, t53)); t55 := (1.0 + (t54 * sqrt(mu_x))); t56 := fold($k1 from 0 ++ while ($k1 < size(ion_list)); init fold($k1 from 0 ++ while ($k1 < size(param_list)); init fold($k1 from 0 ++ while ($k1 < size(s_list)); init LGAMMA[]; step store($prev1{LGAMMA[]}, t1 := 0.0)); step switch(pitz_params[param_list[$k1]]->type; TYPE_B0 -> store(t11, t9 := (sel(t11, t9) + t12)); TYPE_B1 -> t16; TYPE_B2 -> t16; TYPE_C0 -> store(t19, t9 := (sel(t19, t9) + (((sel(t8, t2) * t17) * pitz_params[param_list[$k1]]->p) / t18))); TYPE_ETA -> t31; TYPE_ETHETA -> ite(t32, store(t34, t9 := (sel(t34, t9) + (t35 * pitz_params[param_list[$k1]]->thetas->etheta))), $prev1{LGAMMA[]}); TYPE_LAMBDA -> store(t36, t9 := (sel(t36, t9) + ((sel(t8, t2) * pitz_params[param_list[$k1]]->p) * pitz_params[param_list[$k1]]->ln_coef[1]))); TYPE_MU -> store(t38, t22 := ite(t23, t39, (t39 + (t30 * pitz_params[param_list[$k1]]->ln_coef[2])))); TYPE_PSI -> t31; TYPE_THETA -> store(t40, t9 := (sel(t40, t9) + (t35 * pitz_params[param_list[$k1]]->p))); TYPE_ZETA -> t31; else -> $prev1{LGAMMA[]})); step store($prev1{LGAMMA[]}, t41 := (sel($prev1{LGAMMA[]}, t41) + (((t42 * t42) * ite((t42 == 1), fold($k1 from 0 ++ while ($k1 < size(param_list)); init t49; step ite(t50, ($prev1{F1} + t52), $prev1{F1})), ite((t42 == 2.0), fold($k1 from 0 ++ while ($k1 < size(param_list)); init ite(t43, ite((t54 != 0), (-A0 * ((sqrt(mu_x) / t55) + ((2.0 * log(t55)) / t54))), t48), t48); step ite(t50, ($prev1{F2} + t52), $prev1{F2})), fold($k1 from 0 ++ while ($k1 < size(param_list)); init t48; step ite(t50, ($prev1{F} + t52), $prev1{F}))))) + (t42 * fold($k1 from 0 ++ while ($k1 < size(param_list)); init 0.0; step switch(pitz_params[param_list[$k1]]->type; TYPE_C0 -> ($prev1{CSUM} + (t30 / t18)); else -> $prev1{CSUM}))))))); t57 := ite((mcb0 != NULL), (t49 + ((mu_x * 2.0) * mcb0->p)), t49); t58 := (2.0 * sqrt(mu_x)); t59 := ite((mcb1 != NULL), (t57 + (((mu_x * 2.0) * mcb1->p) * ((1.0 - (((1.0 + t58) - ((t58 * t58) * 0.5)) * exp(-t58))) / (t58 * t58)))), t57); ite((ICON == 1), fold($k1 from 0 ++ while ($k1 < size(s_list)); init t56; step store($prev1{LGAMMA[]}, t1 := (sel($prev1{LGAMMA[]}, t1) + (spec[s_list[$k1]]->z * (sel(t56, [IC]) - ite((mcc0 != NULL), (t59 + (((1.5 * mcc0->p) * mu_x) * mu_x)), t59)))))), t56)"),
  ("M[]", "t1 := [s_list[$k1]]; t2 := store($prev1{M[]}, t1 := 0.0); fold($k1 from 0 ++ while ($k1 < size(s_list)); init M[]; step ite(((spec[s_list[$k1]] != NULL) && (spec[s_list[$k1]]->in == 1)), store(t2, t1 := ite((((spec[s_list[$k1]]->type == 5) || (spec[s_list[$k1]]->type == 6)) || (spec[s_list[$k1]]->type == 7)), 0.0, under(spec[s_list[$k1]]->lm))), t2))"),
  ("spec[]->lg_pitzer", "t1 := [s_list[$k1]]; t2 := [pitz_params[param_list[$k1]]->ispec[0]]; t3 := sel($prev1{LGAMMA[]}, t2); t4 := ((spec[s_list[$k1]] != NULL) && (spec[s_list[$k1]]->in == 1)); t5 := store($prev1{M[]}, t1 := 0.0); t6 := (((spec[s_list[$k1]]->type == 5) || (spec[s_list[$k1]]->type == 6)) || (spec[s_list[$k1]]->type == 7)); t7 := ite(t6, 0.0, under(spec[s_list[$k1]]->lm)); t8 := fold($k1 from 0 ++ while ($k1 < size(s_list)); init M[]; step ite(t4, store(t5, t1 := t7), t5)); t9 := [pitz_params[param_list[$k1]]->ispec[1]]; t10 := ((sel(t8, t9) * 2.0) * pitz_params[param_list[$k1]]->p); t11 := store($prev1{LGAMMA[]}, t2 := (t3 + t10)); t12 := ((sel(t8, t2) * 2.0) * pitz_params[param_list[$k1]]->p); t13 := (pitz_params[param_list[$k1]]->p != 0.0); t14 := (pitz_params[param_list[$k1]]->alpha * sqrt(mu_x)); t15 := store($prev1{LGAMMA[]}, t2 := (t3 + (t10 * G(t14)))); t16 := ite(t13, store(t15, t9 := (sel(t15, t9) + (t12 * G(t14)))), $prev1{LGAMMA[]}); t17 := fold($k1 from 0 ++ while ($k1 < size(s_list)); init 0.0; step ($prev1{XX} + (sel(t8, t1) * fabs(spec[s_list[$k1]]->z)))); t18 := (2.0 * sqrt(fabs((spec[pitz_params[param_list[$k1]]->ispec[0]]->z * spec[pitz_params[param_list[$k1]]->ispec[1]]->z)))); t19 := store($prev1{LGAMMA[]}, t2 := (t3 + (((sel(t8, t9) * t17) * pitz_params[param_list[$k1]]->p) / t18))); t20 := store($prev1{IPRSNT[]}, t1 := 0); t21 := fold($k1 from 0 ++ while ($k1 < size(s_list)); init IPRSNT[]; step ite(t4, ite((t7 > MIN_TOTAL), store(t20, t1 := !t6), t20), t20)); t22 := [pitz_params[param_list[$k1]]->ispec[2]]; t23 := (sel(ite((ICON == 1), store(t21, [IC] := 1), t21), t22) == 0); t24 := ((sel(t8, t9) * sel(t8, t22)) * pitz_params[param_list[$k1]]->p); t25 := store($prev1{LGAMMA[]}, t2 := ite(t23, t3, (t3 + t24))); t26 := ((sel(t8, t2) * sel(t8, t22)) * pitz_params[param_list[$k1]]->p); t27 := store(t25, t9 := ite(t23, sel(t25, t9), (sel(t25, t9) + t26))); t28 := sel(t27, t22); t29 := (sel(t8, t2) * sel(t8, t9)); t30 := (t29 * pitz_params[param_list[$k1]]->p); t31 := store(t27, t22 := ite(t23, t28, (t28 + t30))); t32 := (use_etheta == 1); t33 := (2.0 * sel(t8, t9)); t34 := store($prev1{LGAMMA[]}, t2 := (t3 + (t33 * pitz_params[param_list[$k1]]->thetas->etheta))); t35 := (2.0 * sel(t8, t2)); t36 := store($prev1{LGAMMA[]}, t2 := (t3 + ((sel(t8, t9) * pitz_params[param_list[$k1]]->p) * pitz_params[param_list[$k1]]->ln_coef[0]))); t37 := store($prev1{LGAMMA[]}, t2 := ite(t23, t3, (t3 + (t24 * pitz_params[param_list[$k1]]->ln_coef[0])))); t38 := store(t37, t9 := ite(t23, sel(t37, t9), (sel(t37, t9) + (t26 * pitz_params[param_list[$k1]]->ln_coef[1])))); t39 := sel(t38, t22); t40 := store($prev1{LGAMMA[]}, t2 := (t3 + (t33 * pitz_params[param_list[$k1]]->p))); t41 := [ion_list[$k1]]; t42 := fabs(spec[ion_list[$k1]]->z); t43 := (patm_x > 1.0); t44 := ((7e-05 + (1.93e-09 * pow((tk_x - 250.0), 2.0))) * patm_x); t45 := (1.2 - ite((t44 > 0.2), 0.2, t44)); t46 := (1.0 + (t45 * sqrt(mu_x))); t47 := (1.0 + (1.2 * sqrt(mu_x))); t48 := (-A0 * ((sqrt(mu_x) / t47) + ((2.0 * log(t47)) / 1.2))); t49 := ite(t43, ite((t45 != 0), (-A0 * ((sqrt(mu_x) / t46) + ((2.0 * log(t46)) / t45))), t48), t48); t50 := switch(pitz_params[param_list[$k1]]->type; TYPE_ETA -> !t23; TYPE_MU -> !t23; TYPE_PSI -> !t23; TYPE_ZETA -> !t23; else -> 1); t51 := ite(t13, ((t30 * GP(t14)) / mu_x), 0); t52 := switch(pitz_params[param_list[$k1]]->type; TYPE_B1 -> t51; TYPE_B2 -> t51; TYPE_ETHETA -> ite(t32, (t29 * pitz_params[param_list[$k1]]->thetas->ethetap), 0); else -> 0); t53 := ite((tk_x > 263.0), ((9.65e-10 * pow((tk_x - 263.0), 2.773)) * pow(patm_x, 0.623)), t44); t54 := (1.2 - ite((t53 > 0.2), 0.2, t53)); t55 := (1.0 + (t54 * sqrt(mu_x))); t56 := fold($k1 from 0 ++ while ($k1 < size(ion_list)); init fold($k1 from 0 ++ while ($k1 < size(param_list)); init fold($k1 from 0 ++ while ($k1 < size(s_list)); init LGAMMA[]; step store($prev1{LGAMMA[]}, t1 := 0.0)); step switch(pitz_params[param_list[$k1]]->type; TYPE_B0 -> store(t11, t9 := (sel(t11, t9) + t12)); TYPE_B1 -> t16; TYPE_B2 -> t16; TYPE_C0 -> store(t19, t9 := (sel(t19, t9) + (((sel(t8, t2) * t17) * pitz_params[param_list[$k1]]->p) / t18))); TYPE_ETA -> t31; TYPE_ETHETA -> ite(t32, store(t34, t9 := (sel(t34, t9) + (t35 * pitz_params[param_list[$k1]]->thetas->etheta))), $prev1{LGAMMA[]}); TYPE_LAMBDA -> store(t36, t9 := (sel(t36, t9) + ((sel(t8, t2) * pitz_params[param_list[$k1]]->p) * pitz_params[param_list[$k1]]->ln_coef[1]))); TYPE_MU -> store(t38, t22 := ite(t23, t39, (t39 + (t30 * pitz_params[param_list[$k1]]->ln_coef[2])))); TYPE_PSI -> t31; TYPE_THETA -> store(t40, t9 := (sel(t40, t9) + (t35 * pitz_params[param_list[$k1]]->p))); TYPE_ZETA -> t31; else -> $prev1{LGAMMA[]})); step store($prev1{LGAMMA[]}, t41 := (sel($prev1{LGAMMA[]}, t41) + (((t42 * t42) * ite((t42 == 1), fold($k1 from 0 ++ while ($k1 < size(param_list)); init t49; step ite(t50, ($prev1{F1} + t52), $prev1{F1})), ite((t42 == 2.0), fold($k1 from 0 ++ while ($k1 < size(param_list)); init ite(t43, ite((t54 != 0), (-A0 * ((sqrt(mu_x) / t55) + ((2.0 * log(t55)) / t54))), t48), t48); step ite(t50, ($prev1{F2} + t52), $prev1{F2})), fold($k1 from 0 ++ while ($k1 < size(param_list)); init t48; step ite(t50, ($prev1{F} + t52), $prev1{F}))))) + (t42 * fold($k1 from 0 ++ while ($k1 < size(param_list)); init 0.0; step switch(pitz_params[param_list[$k1]]->type; TYPE_C0 -> ($prev1{CSUM} + (t30 / t18)); else -> $prev1{CSUM}))))))); t57 := ite((mcb0 != NULL), (t49 + ((mu_x * 2.0) * mcb0->p)), t49); t58 := (2.0 * sqrt(mu_x)); t59 := ite((mcb1 != NULL), (t57 + (((mu_x * 2.0) * mcb1->p) * ((1.0 - (((1.0 + t58) - ((t58 * t58) * 0.5)) * exp(-t58))) / (t58 * t58)))), t57); fold($k1 from 0 ++ while ($k1 < size(s_list)); init spec[]->lg_pitzer; step store($prev1{spec[]->lg_pitzer}, t1 := (sel(ite((ICON == 1), fold($k1 from 0 ++ while ($k1 < size(s_list)); init t56; step store($prev1{LGAMMA[]}, t1 := (sel($prev1{LGAMMA[]}, t1) + (spec[s_list[$k1]]->z * (sel(t56, [IC]) - ite((mcc0 != NULL), (t59 + (((1.5 * mcc0->p) * mu_x) * mu_x)), t59)))))), t56), t1) * (1.0 / LOG_10))))"),
  ("theta_params[]->etheta", "ite((use_etheta == 1), fold($k1 from 0 ++ while ($k1 < size(theta_params)); init theta_params[]->etheta; step store($prev1{theta_params[]->etheta}, [$k1] := ETHETAS#out3(theta_params[$k1]->zj, theta_params[$k1]->zk, mu_x))), theta_params[]->etheta)"),
  ("theta_params[]->ethetap", "ite((use_etheta == 1), fold($k1 from 0 ++ while ($k1 < size(theta_params)); init theta_params[]->ethetap; step store($prev1{theta_params[]->ethetap}, [$k1] := ETHETAS#out4(theta_params[$k1]->zj, theta_params[$k1]->zk, mu_x))), theta_params[]->ethetap)")
] := rfl

/-- `sit()`: the assembly of the loops — `Pitzer.sit` -/
theorem sitNF_as_modelled : sitNF = [
  ("$ret", "1"),
  ("AW", "t1 := [s_list[$k1]]; t2 := fold($k1 from 0 ++ while ($k1 < size(s_list)); init sit_M[]; step ite((spec[s_list[$k1]]->lm > log10(MIN_TOTAL)), store($prev1{sit_M[]}, t1 := under(spec[s_list[$k1]]->lm)), store($prev1{sit_M[]}, t1 := 0.0))); t3 := fold($k1 from 0 ++ while ($k1 < size(s_list)); init 0.0; step ($prev1{OSUM} + sel(t2, t1))); t4 := (1.0 + (1.5 * sqrt(mu_x))); t5 := ((spec[sit_params[param_list[$k1]]->ispec[0]]->z == 0.0) && (spec[sit_params[param_list[$k1]]->ispec[1]]->z == 0.0)); t6 := ((sel(t2, [sit_params[param_list[$k1]]->ispec[0]]) * sel(t2, [sit_params[param_list[$k1]]->ispec[1]])) * sit_params[param_list[$k1]]->p); t7 := ($prev1{OSMOT} + t6); exp(((-t3 * (1.0 + ((fold($k1 from 0 ++ while ($k1 < size(param_list)); init (((-2.0 * ((3 * sit_A0) / LOG_10)) / ((1.5 * 1.5) * 1.5)) * ((t4 - (2.0 * log(t4))) - (1.0 / t4))); step switch(sit_params[param_list[$k1]]->type; TYPE_SIT_EPSILON -> ite(t5, ($prev1{OSMOT} + (t6 / 2.0)), t7); TYPE_SIT_EPSILON_MU -> ite(t5, (t7 + ((t6 * mu_x) / 2.0)), (t7 + (t6 * mu_x))); else -> $prev1{OSMOT})) * LOG_10) / t3))) / 55.50837))"),
  ("COSMOT", "t1 := (1.0 + (1.5 * sqrt(mu_x))); t2 := ((spec[sit_params[param_list[$k1]]->ispec[0]]->z == 0.0) && (spec[sit_params[param_list[$k1]]->ispec[1]]->z == 0.0)); t3 := [s_list[$k1]]; t4 := fold($k1 from 0 ++ while ($k1 < size(s_list)); init sit_M[]; step ite((spec[s_list[$k1]]->lm > log10(MIN_TOTAL)), store($prev1{sit_M[]}, t3 := under(spec[s_list[$k1]]->lm)), store($prev1{sit_M[]}, t3 := 0.0))); t5 := ((sel(t4, [sit_params[param_list[$k1]]->ispec[0]]) * sel(t4, [sit_params[param_list[$k1]]->ispec[1]])) * sit_params[param_list[$k1]]->p); t6 := ($prev1{OSMOT} + t5); (1.0 + ((fold($k1 from 0 ++ while ($k1 < size(param_list)); init (((-2.0 * ((3 * sit_A0) / LOG_10)) / ((1.5 * 1.5) * 1.5)) * ((t1 - (2.0 * log(t1))) - (1.0 / t1))); step switch(sit_params[param_list[$k1]]->type; TYPE_SIT_EPSILON -> ite(t2, ($prev1{OSMOT} + (t5 / 2.0)), t6); TYPE_SIT_EPSILON_MU -> ite(t2, (t6 + ((t5 * mu_x) / 2.0)), (t6 + (t5 * mu_x))); else -> $prev1{OSMOT})) * LOG_10) / fold($k1 from 0 ++ while ($k1 < size(s_list)); init 0.0; step ($prev1{OSUM} + sel(t4, t3)))))"),
  ("sit_LGAMMA[]", "t1 := [s_list[$k1]]; t2 := [sit_params[param_list[$k1]]->ispec[0]]; t3 := sel($prev1{sit_LGAMMA[]}, t2); t4 := fold($k1 from 0 ++ while ($k1 < size(s_list)); init sit_M[]; step ite((spec[s_list[$k1]]->lm > log10(MIN_TOTAL)), store($prev1{sit_M[]}, t1 := under(spec[s_list[$k1]]->lm)), store($prev1{sit_M[]}, t1 := 0.0))); t5 := [sit_params[param_list[$k1]]->ispec[1]]; t6 := store($prev1{sit_LGAMMA[]}, t2 := (t3 + (sel(t4, t5) * sit_params[param_list[$k1]]->p))); t7 := store($prev1{sit_LGAMMA[]}, t2 := (t3 + ((sel(t4, t5) * mu_x) * sit_params[param_list[$k1]]->p))); t8 := [ion_list[$k1]]; fold($k1 from 0 ++ while ($k1 < size(ion_list)); init fold($k1 from 0 ++ while ($k1 < size(param_list)); init fold($k1 from 0 ++ while ($k1 < size(s_list)); init sit_LGAMMA[]; step store($prev1{sit_LGAMMA[]}, t1 := 0.0)); step switch(sit_params[param_list[$k1]]->type; TYPE_SIT_EPSILON -> store(t6, t5 := (sel(t6, t5) + (sel(t4, t2) * sit_params[param_list[$k1]]->p))); TYPE_SIT_EPSILON_MU -> store(t7, t5 := (sel(t7, t5) + ((sel(t4, t2) * mu_x) * sit_params[param_list[$k1]]->p))); else -> $prev1{sit_LGAMMA[]})); step store($prev1{sit_LGAMMA[]}, t8 := (sel($prev1{sit_LGAMMA[]}, t8) + ((spec[ion_list[$k1]]->z * spec[ion_list[$k1]]->z) * (-((3 * sit_A0) / LOG_10) * (sqrt(mu_x) / (1.0 + (1.5 * sqrt(mu_x)))))))))"),
  ("sit_M[]", "t1 := [s_list[$k1]]; fold($k1 from 0 ++ while ($k1 < size(s_list)); init sit_M[]; step ite((spec[s_list[$k1]]->lm > log10(MIN_TOTAL)), store($prev1{sit_M[]}, t1 := under(spec[s_list[$k1]]->lm)), store($prev1{sit_M[]}, t1 := 0.0)))"),
  ("spec[]->lg_pitzer", "t1 := [s_list[$k1]]; t2 := [sit_params[param_list[$k1]]->ispec[0]]; t3 := sel($prev1{sit_LGAMMA[]}, t2); t4 := fold($k1 from 0 ++ while ($k1 < size(s_list)); init sit_M[]; step ite((spec[s_list[$k1]]->lm > log10(MIN_TOTAL)), store($prev1{sit_M[]}, t1 := under(spec[s_list[$k1]]->lm)), store($prev1{sit_M[]}, t1 := 0.0))); t5 := [sit_params[param_list[$k1]]->ispec[1]]; t6 := store($prev1{sit_LGAMMA[]}, t2 := (t3 + (sel(t4, t5) * sit_params[param_list[$k1]]->p))); t7 := store($prev1{sit_LGAMMA[]}, t2 := (t3 + ((sel(t4, t5) * mu_x) * sit_params[param_list[$k1]]->p))); t8 := [ion_list[$k1]]; fold($k1 from 0 ++ while ($k1 < size(s_list)); init spec[]->lg_pitzer; step store($prev1{spec[]->lg_pitzer}, t1 := sel(fold($k1 from 0 ++ while ($k1 < size(ion_list)); init fold($k1 from 0 ++ while ($k1 < size(param_list)); init fold($k1 from 0 ++ while ($k1 < size(s_list)); init sit_LGAMMA[]; step store($prev1{sit_LGAMMA[]}, t1 := 0.0)); step switch(sit_params[param_list[$k1]]->type; TYPE_SIT_EPSILON -> store(t6, t5 := (sel(t6, t5) + (sel(t4, t2) * sit_params[param_list[$k1]]->p))); TYPE_SIT_EPSILON_MU -> store(t7, t5 := (sel(t7, t5) + ((sel(t4, t2) * mu_x) * sit_params[param_list[$k1]]->p))); else -> $prev1{sit_LGAMMA[]})); step store($prev1{sit_LGAMMA[]}, t8 := (sel($prev1{sit_LGAMMA[]}, t8) + ((spec[ion_list[$k1]]->z * spec[ion_list[$k1]]->z) * (-((3 * sit_A0) / LOG_10) * (sqrt(mu_x) / (1.0 + (1.5 * sqrt(mu_x))))))))), t1)))")
] := rfl

/-- `gammas()`: the LLNL block with its search loop (`Gamma.searchGo`, `inRange`) and the early returns -/
theorem gammasNF_as_modelled : gammasNF = [
  ("$ret", "t1 := (pitzer_model == 1); t2 := (sit_model == 1); ite((!t1 && !t2), 1, ite(t2, ite(t1, gammas_pz(1), gammas_sit()), ite(t1, gammas_pz(1), $noret)))"),
  ("a_llnl", "t1 := size(llnl_temp); t2 := (!(pitzer_model == 1) && !(sit_model == 1)); t3 := (tc_x <= llnl_temp[$k1]); t4 := ite((ite(t2, fold($k1 from 0 ++ while ($k1 < size(llnl_temp)); init t1; step ite(t3, $k1, $prev1{ilast}); exit (t2 && t3)), t1) == ite(t2, fold($k1 from 0 ++ while ($k1 < size(llnl_temp)); init 0; step ite((tc_x >= llnl_temp[$k1]), $k1, $prev1{ifirst}); exit (t2 && t3)), 0)), 1, ((tc_x - llnl_temp[ite((!(pitzer_model == 1) && !(sit_model == 1)), fold($k1 from 0 ++ while ($k1 < size(llnl_temp)); init 0; step ite((tc_x >= llnl_temp[$k1]), $k1, $prev1{ifirst}); exit ((!(pitzer_model == 1) && !(sit_model == 1)) && (tc_x <= llnl_temp[$k1]))), 0)]) / (llnl_temp[ite((!(pitzer_model == 1) && !(sit_model == 1)), fold($k1 from 0 ++ while ($k1 < size(llnl_temp)); init size(llnl_temp); step ite((tc_x <= llnl_temp[$k1]), $k1, $prev1{ilast}); exit ((!(pitzer_model == 1) && !(sit_model == 1)) && (tc_x <= llnl_temp[$k1]))), size(llnl_temp))] - llnl_temp[ite((!(pitzer_model == 1) && !(sit_model == 1)), fold($k1 from 0 ++ while ($k1 < size(llnl_temp)); init 0; step ite((tc_x >= llnl_temp[$k1]), $k1, $prev1{ifirst}); exit ((!(pitzer_model == 1) && !(sit_model == 1)) && (tc_x <= llnl_temp[$k1]))), 0)]))); ite((t1 > 0), ite(t2, (((1 - t4) * llnl_adh[ite((!(pitzer_model == 1) && !(sit_model == 1)), fold($k1 from 0 ++ while ($k1 < size(llnl_temp)); init 0; step ite((tc_x >= llnl_temp[$k1]), $k1, $prev1{ifirst}); exit ((!(pitzer_model == 1) && !(sit_model == 1)) && (tc_x <= llnl_temp[$k1]))), 0)]) + (t4 * llnl_adh[ite((!(pitzer_model == 1) && !(sit_model == 1)), fold($k1 from 0 ++ while ($k1 < size(llnl_temp)); init size(llnl_temp); step ite((tc_x <= llnl_temp[$k1]), $k1, $prev1{ilast}); exit ((!(pitzer_model == 1) && !(sit_model == 1)) && (tc_x <= llnl_temp[$k1]))), size(llnl_temp))])), a_llnl), ite(t2, 0, a_llnl))"),
  ("b_llnl", "t1 := size(llnl_temp); t2 := (!(pitzer_model == 1) && !(sit_model == 1)); t3 := (tc_x <= llnl_temp[$k1]); t4 := ite((ite(t2, fold($k1 from 0 ++ while ($k1 < size(llnl_temp)); init t1; step ite(t3, $k1, $prev1{ilast}); exit (t2 && t3)), t1) == ite(t2, fold($k1 from 0 ++ while ($k1 < size(llnl_temp)); init 0; step ite((tc_x >= llnl_temp[$k1]), $k1, $prev1{ifirst}); exit (t2 && t3)), 0)), 1, ((tc_x - llnl_temp[ite((!(pitzer_model == 1) && !(sit_model == 1)), fold($k1 from 0 ++ while ($k1 < size(llnl_temp)); init 0; step ite((tc_x >= llnl_temp[$k1]), $k1, $prev1{ifirst}); exit ((!(pitzer_model == 1) && !(sit_model == 1)) && (tc_x <= llnl_temp[$k1]))), 0)]) / (llnl_temp[ite((!(pitzer_model == 1) && !(sit_model == 1)), fold($k1 from 0 ++ while ($k1 < size(llnl_temp)); init size(llnl_temp); step ite((tc_x <= llnl_temp[$k1]), $k1, $prev1{ilast}); exit ((!(pitzer_model == 1) && !(sit_model == 1)) && (tc_x <= llnl_temp[$k1]))), size(llnl_temp))] - llnl_temp[ite((!(pitzer_model == 1) && !(sit_model == 1)), fold($k1 from 0 ++ while ($k1 < size(llnl_temp)); init 0; step ite((tc_x >= llnl_temp[$k1]), $k1, $prev1{ifirst}); exit ((!(pitzer_model == 1) && !(sit_model == 1)) && (tc_x <= llnl_temp[$k1]))), 0)]))); ite((t1 > 0), ite(t2, (((1 - t4) * llnl_bdh[ite((!(pitzer_model == 1) && !(sit_model == 1)), fold($k1 from 0 ++ while ($k1 < size(llnl_temp)); init 0; step ite((tc_x >= llnl_temp[$k1]), $k1, $prev1{ifirst}); exit ((!(pitzer_model == 1) && !(sit_model == 1)) && (tc_x <= llnl_temp[$k1]))), 0)]) + (t4 * llnl_bdh[ite((!(pitzer_model == 1) && !(sit_model == 1)), fold($k1 from 0 ++ while ($k1 < size(llnl_temp)); init size(llnl_temp); step ite((tc_x <= llnl_temp[$k1]), $k1, $prev1{ilast}); exit ((!(pitzer_model == 1) && !(sit_model == 1)) && (tc_x <= llnl_temp[$k1]))), size(llnl_temp))])), b_llnl), ite(t2, 0, b_llnl))"),
  ("bdot_llnl", "t1 := size(llnl_temp); t2 := (!(pitzer_model == 1) && !(sit_model == 1)); t3 := (tc_x <= llnl_temp[$k1]); t4 := ite((ite(t2, fold($k1 from 0 ++ while ($k1 < size(llnl_temp)); init t1; step ite(t3, $k1, $prev1{ilast}); exit (t2 && t3)), t1) == ite(t2, fold($k1 from 0 ++ while ($k1 < size(llnl_temp)); init 0; step ite((tc_x >= llnl_temp[$k1]), $k1, $prev1{ifirst}); exit (t2 && t3)), 0)), 1, ((tc_x - llnl_temp[ite((!(pitzer_model == 1) && !(sit_model == 1)), fold($k1 from 0 ++ while ($k1 < size(llnl_temp)); init 0; step ite((tc_x >= llnl_temp[$k1]), $k1, $prev1{ifirst}); exit ((!(pitzer_model == 1) && !(sit_model == 1)) && (tc_x <= llnl_temp[$k1]))), 0)]) / (llnl_temp[ite((!(pitzer_model == 1) && !(sit_model == 1)), fold($k1 from 0 ++ while ($k1 < size(llnl_temp)); init size(llnl_temp); step ite((tc_x <= llnl_temp[$k1]), $k1, $prev1{ilast}); exit ((!(pitzer_model == 1) && !(sit_model == 1)) && (tc_x <= llnl_temp[$k1]))), size(llnl_temp))] - llnl_temp[ite((!(pitzer_model == 1) && !(sit_model == 1)), fold($k1 from 0 ++ while ($k1 < size(llnl_temp)); init 0; step ite((tc_x >= llnl_temp[$k1]), $k1, $prev1{ifirst}); exit ((!(pitzer_model == 1) && !(sit_model == 1)) && (tc_x <= llnl_temp[$k1]))), 0)]))); ite((t1 > 0), ite(t2, (((1 - t4) * llnl_bdot[ite((!(pitzer_model == 1) && !(sit_model == 1)), fold($k1 from 0 ++ while ($k1 < size(llnl_temp)); init 0; step ite((tc_x >= llnl_temp[$k1]), $k1, $prev1{ifirst}); exit ((!(pitzer_model == 1) && !(sit_model == 1)) && (tc_x <= llnl_temp[$k1]))), 0)]) + (t4 * llnl_bdot[ite((!(pitzer_model == 1) && !(sit_model == 1)), fold($k1 from 0 ++ while ($k1 < size(llnl_temp)); init size(llnl_temp); step ite((tc_x <= llnl_temp[$k1]), $k1, $prev1{ilast}); exit ((!(pitzer_model == 1) && !(sit_model == 1)) && (tc_x <= llnl_temp[$k1]))), size(llnl_temp))])), bdot_llnl), ite(t2, 0, bdot_llnl))")
] := rfl

/-- `pitzer_tidy` — `lambdaCoefs`, `muLn`, `muOs`, the default and `-ALPHAS` values of alpha -/
theorem tidyNF_as_modelled : tidyNF = [
  ("pitz_params[]->alpha", "t1 := fabs(spec[sel(fold($k1 from 0 ++ while ($k1 < size(pitz_params)); init pitz_params[]->ispec[]; step store(store(store($prev1{pitz_params[]->ispec[]}, [$k1; 0] := ISPEC(pitz_params[$k1]->species[0])), [$k1; 1] := ite((((0 < 2) && (ISPEC(pitz_params[$k1]->species[0]) == -1)) || (((0 == 2) && ((pitz_params[$k1]->type == TYPE_PSI) || (pitz_params[$k1]->type == TYPE_ZETA))) && (ISPEC(pitz_params[$k1]->species[0]) == -1))), sel(store($prev1{pitz_params[]->ispec[]}, [$k1; 0] := ISPEC(pitz_params[$k1]->species[0])), [$k1; 1]), ISPEC(pitz_params[$k1]->species[1]))), [$k1; 2] := ite((!(((0 < 2) && (ISPEC(pitz_params[$k1]->species[0]) == -1)) || (((0 == 2) && ((pitz_params[$k1]->type == TYPE_PSI) || (pitz_params[$k1]->type == TYPE_ZETA))) && (ISPEC(pitz_params[$k1]->species[0]) == -1))) && !(((1 < 2) && (ite((((0 < 2) && (ISPEC(pitz_params[$k1]->species[0]) == -1)) || (((0 == 2) && ((pitz_params[$k1]->type == TYPE_PSI) || (pitz_params[$k1]->type == TYPE_ZETA))) && (ISPEC(pitz_params[$k1]->species[0]) == -1))), sel(store($prev1{pitz_params[]->ispec[]}, [$k1; 0] := ISPEC(pitz_params[$k1]->species[0])), [$k1; 1]), ISPEC(pitz_params[$k1]->species[1])) == -1)) || (((1 == 2) && ((pitz_params[$k1]->type == TYPE_PSI) || (pitz_params[$k1]->type == TYPE_ZETA))) && (ite((((0 < 2) && (ISPEC(pitz_params[$k1]->species[0]) == -1)) || (((0 == 2) && ((pitz_params[$k1]->type == TYPE_PSI) || (pitz_params[$k1]->type == TYPE_ZETA))) && (ISPEC(pitz_params[$k1]->species[0]) == -1))), sel(store($prev1{pitz_params[]->ispec[]}, [$k1; 0] := ISPEC(pitz_params[$k1]->species[0])), [$k1; 1]), ISPEC(pitz_params[$k1]->species[1])) == -1)))), ISPEC(pitz_params[$k1]->species[2]), sel(store(store($prev1{pitz_params[]->ispec[]}, [$k1; 0] := ISPEC(pitz_params[$k1]->species[0])), [$k1; 1] := ite((((0 < 2) && (ISPEC(pitz_params[$k1]->species[0]) == -1)) || (((0 == 2) && ((pitz_params[$k1]->type == TYPE_PSI) || (pitz_params[$k1]->type == TYPE_ZETA))) && (ISPEC(pitz_params[$k1]->species[0]) == -1))), sel(store($prev1{pitz_params[]->ispec[]}, [$k1; 0] := ISPEC(pitz_params[$k1]->species[0])), [$k1; 1]), ISPEC(pitz_params[$k1]->species[1]))), [$k1; 2])))), [$k1; 0])]->z); t2 := fabs(spec[sel(fold($k1 from 0 ++ while ($k1 < size(pitz_params)); init pitz_params[]->ispec[]; step store(store(store($prev1{pitz_params[]->ispec[]}, [$k1; 0] := ISPEC(pitz_params[$k1]->species[0])), [$k1; 1] := ite((((0 < 2) && (ISPEC(pitz_params[$k1]->species[0]) == -1)) || (((0 == 2) && ((pitz_params[$k1]->type == TYPE_PSI) || (pitz_params[$k1]->type == TYPE_ZETA))) && (ISPEC(pitz_params[$k1]->species[0]) == -1))), sel(store($prev1{pitz_params[]->ispec[]}, [$k1; 0] := ISPEC(pitz_params[$k1]->species[0])), [$k1; 1]), ISPEC(pitz_params[$k1]->species[1]))), [$k1; 2] := ite((!(((0 < 2) && (ISPEC(pitz_params[$k1]->species[0]) == -1)) || (((0 == 2) && ((pitz_params[$k1]->type == TYPE_PSI) || (pitz_params[$k1]->type == TYPE_ZETA))) && (ISPEC(pitz_params[$k1]->species[0]) == -1))) && !(((1 < 2) && (ite((((0 < 2) && (ISPEC(pitz_params[$k1]->species[0]) == -1)) || (((0 == 2) && ((pitz_params[$k1]->type == TYPE_PSI) || (pitz_params[$k1]->type == TYPE_ZETA))) && (ISPEC(pitz_params[$k1]->species[0]) == -1))), sel(store($prev1{pitz_params[]->ispec[]}, [$k1; 0] := ISPEC(pitz_params[$k1]->species[0])), [$k1; 1]), ISPEC(pitz_params[$k1]->species[1])) == -1)) || (((1 == 2) && ((pitz_params[$k1]->type == TYPE_PSI) || (pitz_params[$k1]->type == TYPE_ZETA))) && (ite((((0 < 2) && (ISPEC(pitz_params[$k1]->species[0]) == -1)) || (((0 == 2) && ((pitz_params[$k1]->type == TYPE_PSI) || (pitz_params[$k1]->type == TYPE_ZETA))) && (ISPEC(pitz_params[$k1]->species[0]) == -1))), sel(store($prev1{pitz_params[]->ispec[]}, [$k1; 0] := ISPEC(pitz_params[$k1]->species[0])), [$k1; 1]), ISPEC(pitz_params[$k1]->species[1])) == -1)))), ISPEC(pitz_params[$k1]->species[2]), sel(store(store($prev1{pitz_params[]->ispec[]}, [$k1; 0] := ISPEC(pitz_params[$k1]->species[0])), [$k1; 1] := ite((((0 < 2) && (ISPEC(pitz_params[$k1]->species[0]) == -1)) || (((0 == 2) && ((pitz_params[$k1]->type == TYPE_PSI) || (pitz_params[$k1]->type == TYPE_ZETA))) && (ISPEC(pitz_params[$k1]->species[0]) == -1))), sel(store($prev1{pitz_params[]->ispec[]}, [$k1; 0] := ISPEC(pitz_params[$k1]->species[0])), [$k1; 1]), ISPEC(pitz_params[$k1]->species[1]))), [$k1; 2])))), [$k1; 1])]->z); t3 := ite((equal(t1, 1.0, 1e-08) || equal(t2, 1.0, 1e-08)), 1, ite((equal(t1, 2.0, 1e-08) && equal(t2, 2.0, 1e-08)), 2, 3)); t4 := store($prev1{pitz_params[]->alpha}, [$k1] := 2.0); t5 := store($prev1{pitz_params[]->alpha}, [$k1] := 12.0); t6 := ISPEC(pitz_params[$k1]->species[0]); t7 := store($prev1{pitz_params[]->ispec[]}, [$k1; 0] := t6); t8 := ((pitz_params[$k1]->type == TYPE_PSI) || (pitz_params[$k1]->type == TYPE_ZETA)); t9 := (((0 < 2) && (t6 == -1)) || (((0 == 2) && t8) && (t6 == -1))); t10 := ite(t9, sel(t7, [$k1; 1]), ISPEC(pitz_params[$k1]->species[1])); t11 := store(t7, [$k1; 1] := t10); t12 := fold($k1 from 0 ++ while ($k1 < size(pitz_params)); init pitz_params[]->ispec[]; step store(t11, [$k1; 2] := ite((!t9 && !(((1 < 2) && (t10 == -1)) || (((1 == 2) && t8) && (t10 == -1)))), ISPEC(pitz_params[$k1]->species[2]), sel(t11, [$k1; 2])))); t13 := !(sel(t12, [$k1; 0]) != sel(t12, [$k2; 0])); t14 := !(sel(t12, [$k1; 1]) != sel(t12, [$k2; 1])); t15 := ((!(pitz_params[$k2]->type != TYPE_B1) && t13) && t14); t16 := sel($prev2{pitz_params[]->alpha}, [$k2]); t17 := ((!(pitz_params[$k2]->type != TYPE_B2) && t13) && t14); fold($k1 from 0 ++ while ($k1 < size(pitz_params)); init fold($k1 from 0 ++ while ($k1 < size(pitz_params)); init pitz_params[]->alpha; step ite((pitz_params[$k1]->type == TYPE_B1), switch(t3; 1 -> t4; 2 -> store($prev1{pitz_params[]->alpha}, [$k1] := 1.4); 3 -> t4; else -> $prev1{pitz_params[]->alpha}), ite((pitz_params[$k1]->type == TYPE_B2), switch(t3; 1 -> t5; 2 -> t5; 3 -> store($prev1{pitz_params[]->alpha}, [$k1] := 50.0); else -> $prev1{pitz_params[]->alpha}), $prev1{pitz_params[]->alpha}))); step ite((pitz_params[$k1]->type == TYPE_ALPHAS), fold($k2 from 0 ++ while ($k2 < size(pitz_params)); init fold($k2 from 0 ++ while ($k2 < size(pitz_params)); init $prev1{pitz_params[]->alpha}; step store($prev2{pitz_params[]->alpha}, [$k2] := ite(t15, pitz_params[$k1]->a[0], t16)); exit t15); step store($prev2{pitz_params[]->alpha}, [$k2] := ite(t17, pitz_params[$k1]->a[1], t16)); exit t17), $prev1{pitz_params[]->alpha}))"),
  ("pitz_params[]->ln_coef[]", "t1 := ISPEC(pitz_params[$k1]->species[0]); t2 := store($prev1{pitz_params[]->ispec[]}, [$k1; 0] := t1); t3 := ((pitz_params[$k1]->type == TYPE_PSI) || (pitz_params[$k1]->type == TYPE_ZETA)); t4 := (((0 < 2) && (t1 == -1)) || (((0 == 2) && t3) && (t1 == -1))); t5 := ite(t4, sel(t2, [$k1; 1]), ISPEC(pitz_params[$k1]->species[1])); t6 := store(t2, [$k1; 1] := t5); t7 := fold($k1 from 0 ++ while ($k1 < size(pitz_params)); init pitz_params[]->ispec[]; step store(t6, [$k1; 2] := ite((!t4 && !(((1 < 2) && (t5 == -1)) || (((1 == 2) && t3) && (t5 == -1)))), ISPEC(pitz_params[$k1]->species[2]), sel(t6, [$k1; 2])))); t8 := sel(t7, [$k1; 2]); t9 := sel(t7, [$k1; 1]); t10 := sel(t7, [$k1; 0]); t11 := store($prev1{count[]}, [0] := 0); t12 := ite((t10 == t10), store(t11, [0] := (0 + 1)), t11); t13 := ite((t10 == t9), store(t12, [0] := (sel(t12, [0]) + 1)), t12); t14 := store(ite((t10 == t8), store(t13, [0] := (sel(t13, [0]) + 1)), t13), [1] := 0); t15 := ite((t9 == t10), store(t14, [1] := (0 + 1)), t14); t16 := ite((t9 == t9), store(t15, [1] := (sel(t15, [1]) + 1)), t15); t17 := store(ite((t9 == t8), store(t16, [1] := (sel(t16, [1]) + 1)), t16), [2] := 0); t18 := ite((t8 == t10), store(t17, [2] := (0 + 1)), t17); t19 := ite((t8 == t9), store(t18, [2] := (sel(t18, [2]) + 1)), t18); t20 := ite((t8 == t8), store(t19, [2] := (sel(t19, [2]) + 1)), t19); t21 := sel(t20, [2]); t22 := ((spec[sel(fold($k1 from 0 ++ while ($k1 < size(pitz_params)); init pitz_params[]->ispec[]; step store(store(store($prev1{pitz_params[]->ispec[]}, [$k1; 0] := ISPEC(pitz_params[$k1]->species[0])), [$k1; 1] := ite((((0 < 2) && (ISPEC(pitz_params[$k1]->species[0]) == -1)) || (((0 == 2) && ((pitz_params[$k1]->type == TYPE_PSI) || (pitz_params[$k1]->type == TYPE_ZETA))) && (ISPEC(pitz_params[$k1]->species[0]) == -1))), sel(store($prev1{pitz_params[]->ispec[]}, [$k1; 0] := ISPEC(pitz_params[$k1]->species[0])), [$k1; 1]), ISPEC(pitz_params[$k1]->species[1]))), [$k1; 2] := ite((!(((0 < 2) && (ISPEC(pitz_params[$k1]->species[0]) == -1)) || (((0 == 2) && ((pitz_params[$k1]->type == TYPE_PSI) || (pitz_params[$k1]->type == TYPE_ZETA))) && (ISPEC(pitz_params[$k1]->species[0]) == -1))) && !(((1 < 2) && (ite((((0 < 2) && (ISPEC(pitz_params[$k1]->species[0]) == -1)) || (((0 == 2) && ((pitz_params[$k1]->type == TYPE_PSI) || (pitz_params[$k1]->type == TYPE_ZETA))) && (ISPEC(pitz_params[$k1]->species[0]) == -1))), sel(store($prev1{pitz_params[]->ispec[]}, [$k1; 0] := ISPEC(pitz_params[$k1]->species[0])), [$k1; 1]), ISPEC(pitz_params[$k1]->species[1])) == -1)) || (((1 == 2) && ((pitz_params[$k1]->type == TYPE_PSI) || (pitz_params[$k1]->type == TYPE_ZETA))) && (ite((((0 < 2) && (ISPEC(pitz_params[$k1]->species[0]) == -1)) || (((0 == 2) && ((pitz_params[$k1]->type == TYPE_PSI) || (pitz_params[$k1]->type == TYPE_ZETA))) && (ISPEC(pitz_params[$k1]->species[0]) == -1))), sel(store($prev1{pitz_params[]->ispec[]}, [$k1; 0] := ISPEC(pitz_params[$k1]->species[0])), [$k1; 1]), ISPEC(pitz_params[$k1]->species[1])) == -1)))), ISPEC(pitz_params[$k1]->species[2]), sel(store(store($prev1{pitz_params[]->ispec[]}, [$k1; 0] := ISPEC(pitz_params[$k1]->species[0])), [$k1; 1] := ite((((0 < 2) && (ISPEC(pitz_params[$k1]->species[0]) == -1)) || (((0 == 2) && ((pitz_params[$k1]->type == TYPE_PSI) || (pitz_params[$k1]->type == TYPE_ZETA))) && (ISPEC(pitz_params[$k1]->species[0]) == -1))), sel(store($prev1{pitz_params[]->ispec[]}, [$k1; 0] := ISPEC(pitz_params[$k1]->species[0])), [$k1; 1]), ISPEC(pitz_params[$k1]->species[1]))), [$k1; 2])))), [$k1; 2])]->z < 0) || (spec[sel(fold($k1 from 0 ++ while ($k1 < size(pitz_params)); init pitz_params[]->ispec[]; step store(store(store($prev1{pitz_params[]->ispec[]}, [$k1; 0] := ISPEC(pitz_params[$k1]->species[0])), [$k1; 1] := ite((((0 < 2) && (ISPEC(pitz_params[$k1]->species[0]) == -1)) || (((0 == 2) && ((pitz_params[$k1]->type == TYPE_PSI) || (pitz_params[$k1]->type == TYPE_ZETA))) && (ISPEC(pitz_params[$k1]->species[0]) == -1))), sel(store($prev1{pitz_params[]->ispec[]}, [$k1; 0] := ISPEC(pitz_params[$k1]->species[0])), [$k1; 1]), ISPEC(pitz_params[$k1]->species[1]))), [$k1; 2] := ite((!(((0 < 2) && (ISPEC(pitz_params[$k1]->species[0]) == -1)) || (((0 == 2) && ((pitz_params[$k1]->type == TYPE_PSI) || (pitz_params[$k1]->type == TYPE_ZETA))) && (ISPEC(pitz_params[$k1]->species[0]) == -1))) && !(((1 < 2) && (ite((((0 < 2) && (ISPEC(pitz_params[$k1]->species[0]) == -1)) || (((0 == 2) && ((pitz_params[$k1]->type == TYPE_PSI) || (pitz_params[$k1]->type == TYPE_ZETA))) && (ISPEC(pitz_params[$k1]->species[0]) == -1))), sel(store($prev1{pitz_params[]->ispec[]}, [$k1; 0] := ISPEC(pitz_params[$k1]->species[0])), [$k1; 1]), ISPEC(pitz_params[$k1]->species[1])) == -1)) || (((1 == 2) && ((pitz_params[$k1]->type == TYPE_PSI) || (pitz_params[$k1]->type == TYPE_ZETA))) && (ite((((0 < 2) && (ISPEC(pitz_params[$k1]->species[0]) == -1)) || (((0 == 2) && ((pitz_params[$k1]->type == TYPE_PSI) || (pitz_params[$k1]->type == TYPE_ZETA))) && (ISPEC(pitz_params[$k1]->species[0]) == -1))), sel(store($prev1{pitz_params[]->ispec[]}, [$k1; 0] := ISPEC(pitz_params[$k1]->species[0])), [$k1; 1]), ISPEC(pitz_params[$k1]->species[1])) == -1)))), ISPEC(pitz_params[$k1]->species[2]), sel(store(store($prev1{pitz_params[]->ispec[]}, [$k1; 0] := ISPEC(pitz_params[$k1]->species[0])), [$k1; 1] := ite((((0 < 2) && (ISPEC(pitz_params[$k1]->species[0]) == -1)) || (((0 == 2) && ((pitz_params[$k1]->type == TYPE_PSI) || (pitz_params[$k1]->type == TYPE_ZETA))) && (ISPEC(pitz_params[$k1]->species[0]) == -1))), sel(store($prev1{pitz_params[]->ispec[]}, [$k1; 0] := ISPEC(pitz_params[$k1]->species[0])), [$k1; 1]), ISPEC(pitz_params[$k1]->species[1]))), [$k1; 2])))), [$k1; 2])]->z > 0)); t23 := sel(t20, [0]); t24 := sel(t20, [1]); t25 := ((t23 > 1) || (t24 > 1)); t26 := ((spec[sel(fold($k1 from 0 ++ while ($k1 < size(pitz_params)); init pitz_params[]->ispec[]; step store(store(store($prev1{pitz_params[]->ispec[]}, [$k1; 0] := ISPEC(pitz_params[$k1]->species[0])), [$k1; 1] := ite((((0 < 2) && (ISPEC(pitz_params[$k1]->species[0]) == -1)) || (((0 == 2) && ((pitz_params[$k1]->type == TYPE_PSI) || (pitz_params[$k1]->type == TYPE_ZETA))) && (ISPEC(pitz_params[$k1]->species[0]) == -1))), sel(store($prev1{pitz_params[]->ispec[]}, [$k1; 0] := ISPEC(pitz_params[$k1]->species[0])), [$k1; 1]), ISPEC(pitz_params[$k1]->species[1]))), [$k1; 2] := ite((!(((0 < 2) && (ISPEC(pitz_params[$k1]->species[0]) == -1)) || (((0 == 2) && ((pitz_params[$k1]->type == TYPE_PSI) || (pitz_params[$k1]->type == TYPE_ZETA))) && (ISPEC(pitz_params[$k1]->species[0]) == -1))) && !(((1 < 2) && (ite((((0 < 2) && (ISPEC(pitz_params[$k1]->species[0]) == -1)) || (((0 == 2) && ((pitz_params[$k1]->type == TYPE_PSI) || (pitz_params[$k1]->type == TYPE_ZETA))) && (ISPEC(pitz_params[$k1]->species[0]) == -1))), sel(store($prev1{pitz_params[]->ispec[]}, [$k1; 0] := ISPEC(pitz_params[$k1]->species[0])), [$k1; 1]), ISPEC(pitz_params[$k1]->species[1])) == -1)) || (((1 == 2) && ((pitz_params[$k1]->type == TYPE_PSI) || (pitz_params[$k1]->type == TYPE_ZETA))) && (ite((((0 < 2) && (ISPEC(pitz_params[$k1]->species[0]) == -1)) || (((0 == 2) && ((pitz_params[$k1]->type == TYPE_PSI) || (pitz_params[$k1]->type == TYPE_ZETA))) && (ISPEC(pitz_params[$k1]->species[0]) == -1))), sel(store($prev1{pitz_params[]->ispec[]}, [$k1; 0] := ISPEC(pitz_params[$k1]->species[0])), [$k1; 1]), ISPEC(pitz_params[$k1]->species[1])) == -1)))), ISPEC(pitz_params[$k1]->species[2]), sel(store(store($prev1{pitz_params[]->ispec[]}, [$k1; 0] := ISPEC(pitz_params[$k1]->species[0])), [$k1; 1] := ite((((0 < 2) && (ISPEC(pitz_params[$k1]->species[0]) == -1)) || (((0 == 2) && ((pitz_params[$k1]->type == TYPE_PSI) || (pitz_params[$k1]->type == TYPE_ZETA))) && (ISPEC(pitz_params[$k1]->species[0]) == -1))), sel(store($prev1{pitz_params[]->ispec[]}, [$k1; 0] := ISPEC(pitz_params[$k1]->species[0])), [$k1; 1]), ISPEC(pitz_params[$k1]->species[1]))), [$k1; 2])))), [$k1; 1])]->z < 0) || (spec[sel(fold($k1 from 0 ++ while ($k1 < size(pitz_params)); init pitz_params[]->ispec[]; step store(store(store($prev1{pitz_params[]->ispec[]}, [$k1; 0] := ISPEC(pitz_params[$k1]->species[0])), [$k1; 1] := ite((((0 < 2) && (ISPEC(pitz_params[$k1]->species[0]) == -1)) || (((0 == 2) && ((pitz_params[$k1]->type == TYPE_PSI) || (pitz_params[$k1]->type == TYPE_ZETA))) && (ISPEC(pitz_params[$k1]->species[0]) == -1))), sel(store($prev1{pitz_params[]->ispec[]}, [$k1; 0] := ISPEC(pitz_params[$k1]->species[0])), [$k1; 1]), ISPEC(pitz_params[$k1]->species[1]))), [$k1; 2] := ite((!(((0 < 2) && (ISPEC(pitz_params[$k1]->species[0]) == -1)) || (((0 == 2) && ((pitz_params[$k1]->type == TYPE_PSI) || (pitz_params[$k1]->type == TYPE_ZETA))) && (ISPEC(pitz_params[$k1]->species[0]) == -1))) && !(((1 < 2) && (ite((((0 < 2) && (ISPEC(pitz_params[$k1]->species[0]) == -1)) || (((0 == 2) && ((pitz_params[$k1]->type == TYPE_PSI) || (pitz_params[$k1]->type == TYPE_ZETA))) && (ISPEC(pitz_params[$k1]->species[0]) == -1))), sel(store($prev1{pitz_params[]->ispec[]}, [$k1; 0] := ISPEC(pitz_params[$k1]->species[0])), [$k1; 1]), ISPEC(pitz_params[$k1]->species[1])) == -1)) || (((1 == 2) && ((pitz_params[$k1]->type == TYPE_PSI) || (pitz_params[$k1]->type == TYPE_ZETA))) && (ite((((0 < 2) && (ISPEC(pitz_params[$k1]->species[0]) == -1)) || (((0 == 2) && ((pitz_params[$k1]->type == TYPE_PSI) || (pitz_params[$k1]->type == TYPE_ZETA))) && (ISPEC(pitz_params[$k1]->species[0]) == -1))), sel(store($prev1{pitz_params[]->ispec[]}, [$k1; 0] := ISPEC(pitz_params[$k1]->species[0])), [$k1; 1]), ISPEC(pitz_params[$k1]->species[1])) == -1)))), ISPEC(pitz_params[$k1]->species[2]), sel(store(store($prev1{pitz_params[]->ispec[]}, [$k1; 0] := ISPEC(pitz_params[$k1]->species[0])), [$k1; 1] := ite((((0 < 2) && (ISPEC(pitz_params[$k1]->species[0]) == -1)) || (((0 == 2) && ((pitz_params[$k1]->type == TYPE_PSI) || (pitz_params[$k1]->type == TYPE_ZETA))) && (ISPEC(pitz_params[$k1]->species[0]) == -1))), sel(store($prev1{pitz_params[]->ispec[]}, [$k1; 0] := ISPEC(pitz_params[$k1]->species[0])), [$k1; 1]), ISPEC(pitz_params[$k1]->species[1]))), [$k1; 2])))), [$k1; 1])]->z > 0)); t27 := ((spec[sel(fold($k1 from 0 ++ while ($k1 < size(pitz_params)); init pitz_params[]->ispec[]; step store(store(store($prev1{pitz_params[]->ispec[]}, [$k1; 0] := ISPEC(pitz_params[$k1]->species[0])), [$k1; 1] := ite((((0 < 2) && (ISPEC(pitz_params[$k1]->species[0]) == -1)) || (((0 == 2) && ((pitz_params[$k1]->type == TYPE_PSI) || (pitz_params[$k1]->type == TYPE_ZETA))) && (ISPEC(pitz_params[$k1]->species[0]) == -1))), sel(store($prev1{pitz_params[]->ispec[]}, [$k1; 0] := ISPEC(pitz_params[$k1]->species[0])), [$k1; 1]), ISPEC(pitz_params[$k1]->species[1]))), [$k1; 2] := ite((!(((0 < 2) && (ISPEC(pitz_params[$k1]->species[0]) == -1)) || (((0 == 2) && ((pitz_params[$k1]->type == TYPE_PSI) || (pitz_params[$k1]->type == TYPE_ZETA))) && (ISPEC(pitz_params[$k1]->species[0]) == -1))) && !(((1 < 2) && (ite((((0 < 2) && (ISPEC(pitz_params[$k1]->species[0]) == -1)) || (((0 == 2) && ((pitz_params[$k1]->type == TYPE_PSI) || (pitz_params[$k1]->type == TYPE_ZETA))) && (ISPEC(pitz_params[$k1]->species[0]) == -1))), sel(store($prev1{pitz_params[]->ispec[]}, [$k1; 0] := ISPEC(pitz_params[$k1]->species[0])), [$k1; 1]), ISPEC(pitz_params[$k1]->species[1])) == -1)) || (((1 == 2) && ((pitz_params[$k1]->type == TYPE_PSI) || (pitz_params[$k1]->type == TYPE_ZETA))) && (ite((((0 < 2) && (ISPEC(pitz_params[$k1]->species[0]) == -1)) || (((0 == 2) && ((pitz_params[$k1]->type == TYPE_PSI) || (pitz_params[$k1]->type == TYPE_ZETA))) && (ISPEC(pitz_params[$k1]->species[0]) == -1))), sel(store($prev1{pitz_params[]->ispec[]}, [$k1; 0] := ISPEC(pitz_params[$k1]->species[0])), [$k1; 1]), ISPEC(pitz_params[$k1]->species[1])) == -1)))), ISPEC(pitz_params[$k1]->species[2]), sel(store(store($prev1{pitz_params[]->ispec[]}, [$k1; 0] := ISPEC(pitz_params[$k1]->species[0])), [$k1; 1] := ite((((0 < 2) && (ISPEC(pitz_params[$k1]->species[0]) == -1)) || (((0 == 2) && ((pitz_params[$k1]->type == TYPE_PSI) || (pitz_params[$k1]->type == TYPE_ZETA))) && (ISPEC(pitz_params[$k1]->species[0]) == -1))), sel(store($prev1{pitz_params[]->ispec[]}, [$k1; 0] := ISPEC(pitz_params[$k1]->species[0])), [$k1; 1]), ISPEC(pitz_params[$k1]->species[1]))), [$k1; 2])))), [$k1; 0])]->z < 0) || (spec[sel(fold($k1 from 0 ++ while ($k1 < size(pitz_params)); init pitz_params[]->ispec[]; step store(store(store($prev1{pitz_params[]->ispec[]}, [$k1; 0] := ISPEC(pitz_params[$k1]->species[0])), [$k1; 1] := ite((((0 < 2) && (ISPEC(pitz_params[$k1]->species[0]) == -1)) || (((0 == 2) && ((pitz_params[$k1]->type == TYPE_PSI) || (pitz_params[$k1]->type == TYPE_ZETA))) && (ISPEC(pitz_params[$k1]->species[0]) == -1))), sel(store($prev1{pitz_params[]->ispec[]}, [$k1; 0] := ISPEC(pitz_params[$k1]->species[0])), [$k1; 1]), ISPEC(pitz_params[$k1]->species[1]))), [$k1; 2] := ite((!(((0 < 2) && (ISPEC(pitz_params[$k1]->species[0]) == -1)) || (((0 == 2) && ((pitz_params[$k1]->type == TYPE_PSI) || (pitz_params[$k1]->type == TYPE_ZETA))) && (ISPEC(pitz_params[$k1]->species[0]) == -1))) && !(((1 < 2) && (ite((((0 < 2) && (ISPEC(pitz_params[$k1]->species[0]) == -1)) || (((0 == 2) && ((pitz_params[$k1]->type == TYPE_PSI) || (pitz_params[$k1]->type == TYPE_ZETA))) && (ISPEC(pitz_params[$k1]->species[0]) == -1))), sel(store($prev1{pitz_params[]->ispec[]}, [$k1; 0] := ISPEC(pitz_params[$k1]->species[0])), [$k1; 1]), ISPEC(pitz_params[$k1]->species[1])) == -1)) || (((1 == 2) && ((pitz_params[$k1]->type == TYPE_PSI) || (pitz_params[$k1]->type == TYPE_ZETA))) && (ite((((0 < 2) && (ISPEC(pitz_params[$k1]->species[0]) == -1)) || (((0 == 2) && ((pitz_params[$k1]->type == TYPE_PSI) || (pitz_params[$k1]->type == TYPE_ZETA))) && (ISPEC(pitz_params[$k1]->species[0]) == -1))), sel(store($prev1{pitz_params[]->ispec[]}, [$k1; 0] := ISPEC(pitz_params[$k1]->species[0])), [$k1; 1]), ISPEC(pitz_params[$k1]->species[1])) == -1)))), ISPEC(pitz_params[$k1]->species[2]), sel(store(store($prev1{pitz_params[]->ispec[]}, [$k1; 0] := ISPEC(pitz_params[$k1]->species[0])), [$k1; 1] := ite((((0 < 2) && (ISPEC(pitz_params[$k1]->species[0]) == -1)) || (((0 == 2) && ((pitz_params[$k1]->type == TYPE_PSI) || (pitz_params[$k1]->type == TYPE_ZETA))) && (ISPEC(pitz_params[$k1]->species[0]) == -1))), sel(store($prev1{pitz_params[]->ispec[]}, [$k1; 0] := ISPEC(pitz_params[$k1]->species[0])), [$k1; 1]), ISPEC(pitz_params[$k1]->species[1]))), [$k1; 2])))), [$k1; 0])]->z > 0)); t28 := ite(t27, ite(t25, store($prev1{pitz_params[]->ln_coef[]}, [$k1; 0] := 3), store($prev1{pitz_params[]->ln_coef[]}, [$k1; 0] := 6)), $prev1{pitz_params[]->ln_coef[]}); t29 := sel(t28, [$k1; 0]); t30 := store(t28, [$k1; 0] := ite(t27, t29, 3)); t31 := ite((t23 == 3), store(t28, [$k1; 0] := ite(t27, t29, 1)), ite((t23 == 2), t30, ite((t23 == 1), ite(t25, t30, store(t28, [$k1; 0] := ite(t27, t29, 6))), t28))); t32 := ite(t26, ite(t25, store(t31, [$k1; 1] := 3), store(t31, [$k1; 1] := 6)), t31); t33 := sel(t32, [$k1; 1]); t34 := store(t32, [$k1; 1] := ite(t26, t33, 3)); t35 := ite((t24 == 3), store(t32, [$k1; 1] := ite(t26, t33, 1)), ite((t24 == 2), t34, ite((t24 == 1), ite(t25, t34, store(t32, [$k1; 1] := ite(t26, t33, 6))), t32))); t36 := ite(t22, ite(t25, store(t35, [$k1; 2] := 3), store(t35, [$k1; 2] := 6)), t35); t37 := sel(t36, [$k1; 2]); t38 := store(t36, [$k1; 2] := ite(t22, t37, 3)); fold($k1 from 0 ++ while ($k1 < size(pitz_params)); init fold($k1 from 0 ++ while ($k1 < size(pitz_params)); init pitz_params[]->ln_coef[]; step ite((pitz_params[$k1]->type == TYPE_MU), ite((t21 == 3), store(t36, [$k1; 2] := ite(t22, t37, 1)), ite((t21 == 2), t38, ite((t21 == 1), ite(t25, t38, store(t36, [$k1; 2] := ite(t22, t37, 6))), t36))), $prev1{pitz_params[]->ln_coef[]})); step ite((pitz_params[$k1]->type == TYPE_LAMBDA), ite((t10 == t9), store(store($prev1{pitz_params[]->ln_coef[]}, [$k1; 0] := 1), [$k1; 1] := 1), store(store($prev1{pitz_params[]->ln_coef[]}, [$k1; 0] := 2), [$k1; 1] := 2)), $prev1{pitz_params[]->ln_coef[]}))"),
  ("pitz_params[]->os_coef", "t1 := ISPEC(pitz_params[$k1]->species[0]); t2 := store($prev1{pitz_params[]->ispec[]}, [$k1; 0] := t1); t3 := ((pitz_params[$k1]->type == TYPE_PSI) || (pitz_params[$k1]->type == TYPE_ZETA)); t4 := (((0 < 2) && (t1 == -1)) || (((0 == 2) && t3) && (t1 == -1))); t5 := ite(t4, sel(t2, [$k1; 1]), ISPEC(pitz_params[$k1]->species[1])); t6 := store(t2, [$k1; 1] := t5); t7 := fold($k1 from 0 ++ while ($k1 < size(pitz_params)); init pitz_params[]->ispec[]; step store(t6, [$k1; 2] := ite((!t4 && !(((1 < 2) && (t5 == -1)) || (((1 == 2) && t3) && (t5 == -1)))), ISPEC(pitz_params[$k1]->species[2]), sel(t6, [$k1; 2])))); t8 := sel(t7, [$k1; 0]); t9 := sel(t7, [$k1; 1]); t10 := sel(t7, [$k1; 2]); t11 := (((t8 == t9) || (t9 == t10)) || (t8 == t10)); t12 := ite((spec[sel(fold($k1 from 0 ++ while ($k1 < size(pitz_params)); init pitz_params[]->ispec[]; step store(store(store($prev1{pitz_params[]->ispec[]}, [$k1; 0] := ISPEC(pitz_params[$k1]->species[0])), [$k1; 1] := ite((((0 < 2) && (ISPEC(pitz_params[$k1]->species[0]) == -1)) || (((0 == 2) && ((pitz_params[$k1]->type == TYPE_PSI) || (pitz_params[$k1]->type == TYPE_ZETA))) && (ISPEC(pitz_params[$k1]->species[0]) == -1))), sel(store($prev1{pitz_params[]->ispec[]}, [$k1; 0] := ISPEC(pitz_params[$k1]->species[0])), [$k1; 1]), ISPEC(pitz_params[$k1]->species[1]))), [$k1; 2] := ite((!(((0 < 2) && (ISPEC(pitz_params[$k1]->species[0]) == -1)) || (((0 == 2) && ((pitz_params[$k1]->type == TYPE_PSI) || (pitz_params[$k1]->type == TYPE_ZETA))) && (ISPEC(pitz_params[$k1]->species[0]) == -1))) && !(((1 < 2) && (ite((((0 < 2) && (ISPEC(pitz_params[$k1]->species[0]) == -1)) || (((0 == 2) && ((pitz_params[$k1]->type == TYPE_PSI) || (pitz_params[$k1]->type == TYPE_ZETA))) && (ISPEC(pitz_params[$k1]->species[0]) == -1))), sel(store($prev1{pitz_params[]->ispec[]}, [$k1; 0] := ISPEC(pitz_params[$k1]->species[0])), [$k1; 1]), ISPEC(pitz_params[$k1]->species[1])) == -1)) || (((1 == 2) && ((pitz_params[$k1]->type == TYPE_PSI) || (pitz_params[$k1]->type == TYPE_ZETA))) && (ite((((0 < 2) && (ISPEC(pitz_params[$k1]->species[0]) == -1)) || (((0 == 2) && ((pitz_params[$k1]->type == TYPE_PSI) || (pitz_params[$k1]->type == TYPE_ZETA))) && (ISPEC(pitz_params[$k1]->species[0]) == -1))), sel(store($prev1{pitz_params[]->ispec[]}, [$k1; 0] := ISPEC(pitz_params[$k1]->species[0])), [$k1; 1]), ISPEC(pitz_params[$k1]->species[1])) == -1)))), ISPEC(pitz_params[$k1]->species[2]), sel(store(store($prev1{pitz_params[]->ispec[]}, [$k1; 0] := ISPEC(pitz_params[$k1]->species[0])), [$k1; 1] := ite((((0 < 2) && (ISPEC(pitz_params[$k1]->species[0]) == -1)) || (((0 == 2) && ((pitz_params[$k1]->type == TYPE_PSI) || (pitz_params[$k1]->type == TYPE_ZETA))) && (ISPEC(pitz_params[$k1]->species[0]) == -1))), sel(store($prev1{pitz_params[]->ispec[]}, [$k1; 0] := ISPEC(pitz_params[$k1]->species[0])), [$k1; 1]), ISPEC(pitz_params[$k1]->species[1]))), [$k1; 2])))), [$k1; 0])]->z == 0), (0 + 1), 0); t13 := ite((spec[sel(fold($k1 from 0 ++ while ($k1 < size(pitz_params)); init pitz_params[]->ispec[]; step store(store(store($prev1{pitz_params[]->ispec[]}, [$k1; 0] := ISPEC(pitz_params[$k1]->species[0])), [$k1; 1] := ite((((0 < 2) && (ISPEC(pitz_params[$k1]->species[0]) == -1)) || (((0 == 2) && ((pitz_params[$k1]->type == TYPE_PSI) || (pitz_params[$k1]->type == TYPE_ZETA))) && (ISPEC(pitz_params[$k1]->species[0]) == -1))), sel(store($prev1{pitz_params[]->ispec[]}, [$k1; 0] := ISPEC(pitz_params[$k1]->species[0])), [$k1; 1]), ISPEC(pitz_params[$k1]->species[1]))), [$k1; 2] := ite((!(((0 < 2) && (ISPEC(pitz_params[$k1]->species[0]) == -1)) || (((0 == 2) && ((pitz_params[$k1]->type == TYPE_PSI) || (pitz_params[$k1]->type == TYPE_ZETA))) && (ISPEC(pitz_params[$k1]->species[0]) == -1))) && !(((1 < 2) && (ite((((0 < 2) && (ISPEC(pitz_params[$k1]->species[0]) == -1)) || (((0 == 2) && ((pitz_params[$k1]->type == TYPE_PSI) || (pitz_params[$k1]->type == TYPE_ZETA))) && (ISPEC(pitz_params[$k1]->species[0]) == -1))), sel(store($prev1{pitz_params[]->ispec[]}, [$k1; 0] := ISPEC(pitz_params[$k1]->species[0])), [$k1; 1]), ISPEC(pitz_params[$k1]->species[1])) == -1)) || (((1 == 2) && ((pitz_params[$k1]->type == TYPE_PSI) || (pitz_params[$k1]->type == TYPE_ZETA))) && (ite((((0 < 2) && (ISPEC(pitz_params[$k1]->species[0]) == -1)) || (((0 == 2) && ((pitz_params[$k1]->type == TYPE_PSI) || (pitz_params[$k1]->type == TYPE_ZETA))) && (ISPEC(pitz_params[$k1]->species[0]) == -1))), sel(store($prev1{pitz_params[]->ispec[]}, [$k1; 0] := ISPEC(pitz_params[$k1]->species[0])), [$k1; 1]), ISPEC(pitz_params[$k1]->species[1])) == -1)))), ISPEC(pitz_params[$k1]->species[2]), sel(store(store($prev1{pitz_params[]->ispec[]}, [$k1; 0] := ISPEC(pitz_params[$k1]->species[0])), [$k1; 1] := ite((((0 < 2) && (ISPEC(pitz_params[$k1]->species[0]) == -1)) || (((0 == 2) && ((pitz_params[$k1]->type == TYPE_PSI) || (pitz_params[$k1]->type == TYPE_ZETA))) && (ISPEC(pitz_params[$k1]->species[0]) == -1))), sel(store($prev1{pitz_params[]->ispec[]}, [$k1; 0] := ISPEC(pitz_params[$k1]->species[0])), [$k1; 1]), ISPEC(pitz_params[$k1]->species[1]))), [$k1; 2])))), [$k1; 1])]->z == 0), (t12 + 1), t12); t14 := (ite((spec[sel(fold($k1 from 0 ++ while ($k1 < size(pitz_params)); init pitz_params[]->ispec[]; step store(store(store($prev1{pitz_params[]->ispec[]}, [$k1; 0] := ISPEC(pitz_params[$k1]->species[0])), [$k1; 1] := ite((((0 < 2) && (ISPEC(pitz_params[$k1]->species[0]) == -1)) || (((0 == 2) && ((pitz_params[$k1]->type == TYPE_PSI) || (pitz_params[$k1]->type == TYPE_ZETA))) && (ISPEC(pitz_params[$k1]->species[0]) == -1))), sel(store($prev1{pitz_params[]->ispec[]}, [$k1; 0] := ISPEC(pitz_params[$k1]->species[0])), [$k1; 1]), ISPEC(pitz_params[$k1]->species[1]))), [$k1; 2] := ite((!(((0 < 2) && (ISPEC(pitz_params[$k1]->species[0]) == -1)) || (((0 == 2) && ((pitz_params[$k1]->type == TYPE_PSI) || (pitz_params[$k1]->type == TYPE_ZETA))) && (ISPEC(pitz_params[$k1]->species[0]) == -1))) && !(((1 < 2) && (ite((((0 < 2) && (ISPEC(pitz_params[$k1]->species[0]) == -1)) || (((0 == 2) && ((pitz_params[$k1]->type == TYPE_PSI) || (pitz_params[$k1]->type == TYPE_ZETA))) && (ISPEC(pitz_params[$k1]->species[0]) == -1))), sel(store($prev1{pitz_params[]->ispec[]}, [$k1; 0] := ISPEC(pitz_params[$k1]->species[0])), [$k1; 1]), ISPEC(pitz_params[$k1]->species[1])) == -1)) || (((1 == 2) && ((pitz_params[$k1]->type == TYPE_PSI) || (pitz_params[$k1]->type == TYPE_ZETA))) && (ite((((0 < 2) && (ISPEC(pitz_params[$k1]->species[0]) == -1)) || (((0 == 2) && ((pitz_params[$k1]->type == TYPE_PSI) || (pitz_params[$k1]->type == TYPE_ZETA))) && (ISPEC(pitz_params[$k1]->species[0]) == -1))), sel(store($prev1{pitz_params[]->ispec[]}, [$k1; 0] := ISPEC(pitz_params[$k1]->species[0])), [$k1; 1]), ISPEC(pitz_params[$k1]->species[1])) == -1)))), ISPEC(pitz_params[$k1]->species[2]), sel(store(store($prev1{pitz_params[]->ispec[]}, [$k1; 0] := ISPEC(pitz_params[$k1]->species[0])), [$k1; 1] := ite((((0 < 2) && (ISPEC(pitz_params[$k1]->species[0]) == -1)) || (((0 == 2) && ((pitz_params[$k1]->type == TYPE_PSI) || (pitz_params[$k1]->type == TYPE_ZETA))) && (ISPEC(pitz_params[$k1]->species[0]) == -1))), sel(store($prev1{pitz_params[]->ispec[]}, [$k1; 0] := ISPEC(pitz_params[$k1]->species[0])), [$k1; 1]), ISPEC(pitz_params[$k1]->species[1]))), [$k1; 2])))), [$k1; 2])]->z == 0), (t13 + 1), t13) == 3); t15 := store($prev1{pitz_params[]->os_coef}, [$k1] := 1); t16 := ite(t14, ite(((t8 == t9) && (t9 == t10)), t15, ite(t11, store($prev1{pitz_params[]->os_coef}, [$k1] := 3), store($prev1{pitz_params[]->os_coef}, [$k1] := 6))), $prev1{pitz_params[]->os_coef}); t17 := sel(t16, [$k1]); fold($k1 from 0 ++ while ($k1 < size(pitz_params)); init fold($k1 from 0 ++ while ($k1 < size(pitz_params)); init pitz_params[]->os_coef; step ite((pitz_params[$k1]->type == TYPE_MU), ite(t11, store(t16, [$k1] := ite(t14, t17, 3)), store(t16, [$k1] := ite(t14, t17, 6))), $prev1{pitz_params[]->os_coef})); step ite((pitz_params[$k1]->type == TYPE_LAMBDA), ite((t8 == t9), store($prev1{pitz_params[]->os_coef}, [$k1] := 0.5), t15), $prev1{pitz_params[]->os_coef}))")
] := rfl

/-- `read_species` — `Gamma.defaultAssign`, `applyOpt` (gflag / dha / dhb per option index, with the option table) -/
theorem readSpeciesNF_as_modelled : readSpeciesNF = [
  ("s_eminus->gflag", "t1 := init('no_check', 'check', 'gamma', 'mb', 'mass_balance', 'log_k', 'logk', 'delta_h', 'deltah', 'analytical_expression', 'a_e', 'ae', 'mole_balance', 'llnl_gamma', 'co2_llnl_gamma', 'activity_water', 'add_logk', 'add_log_k', 'add_constant', 'dw', 'erm_ddl', 'millero', 'vm', 'viscosity'); t2 := get_option(t1, 24, &next_char); t3 := ite((t2 == -4), $prev1{opt_save}, t2); t4 := !$prev1{$flive}; t5 := switch(t3; -1 -> -1; -2 -> 3; else -> $prev1{return_value}); t6 := ite(($prev1{s_ptr} == NULL), t4, 1); t7 := (ite(t6, sscanf(get_option#out2(t1, 24), '%lf%lf%lf%lf%lf%lf%lf', &s_ptr->dw, &s_ptr->dw_t, &s_ptr->dw_a, &s_ptr->dw_a2, &s_ptr->dw_a_visc, &s_ptr->dw_a3, &s_ptr->dw_a_v_dif), $prev1{i}) < 1); fold($k1 from -  while true; init s_eminus->gflag; step switch(t3; -4 -> ite((strcmp(trxn.token[0].s->name, 'H+') == 0), $prev1{s_eminus->gflag}, ite((strcmp(trxn.token[0].s->name, 'H3O+') == 0), $prev1{s_eminus->gflag}, ite((strcmp(trxn.token[0].s->name, 'e-') == 0), ite(($prev1{$flive} && ite((parse_eq(line, construct(), 1) == 0), t4, 1)), 3, $prev1{s_eminus->gflag}), $prev1{s_eminus->gflag}))); else -> $prev1{s_eminus->gflag}); exit ((((t5 == -1) || (t5 == 3)) && switch(t3; 19 -> ite(t7, !($prev1{$flive} && t6), 1); else -> 1)) && switch(t3; 19 -> ite(t7, (!t6 && $prev1{$flive}), $prev1{$flive}); else -> $prev1{$flive})))"),
  ("s_h2o->gflag", "t1 := init('no_check', 'check', 'gamma', 'mb', 'mass_balance', 'log_k', 'logk', 'delta_h', 'deltah', 'analytical_expression', 'a_e', 'ae', 'mole_balance', 'llnl_gamma', 'co2_llnl_gamma', 'activity_water', 'add_logk', 'add_log_k', 'add_constant', 'dw', 'erm_ddl', 'millero', 'vm', 'viscosity'); t2 := get_option(t1, 24, &next_char); t3 := ite((t2 == -4), $prev1{opt_save}, t2); t4 := !$prev1{$flive}; t5 := switch(t3; -1 -> -1; -2 -> 3; else -> $prev1{return_value}); t6 := ite(($prev1{s_ptr} == NULL), t4, 1); t7 := (ite(t6, sscanf(get_option#out2(t1, 24), '%lf%lf%lf%lf%lf%lf%lf', &s_ptr->dw, &s_ptr->dw_t, &s_ptr->dw_a, &s_ptr->dw_a2, &s_ptr->dw_a_visc, &s_ptr->dw_a3, &s_ptr->dw_a_v_dif), $prev1{i}) < 1); fold($k1 from -  while true; init s_h2o->gflag; step switch(t3; -4 -> ite((strcmp(trxn.token[0].s->name, 'H+') == 0), $prev1{s_h2o->gflag}, ite((strcmp(trxn.token[0].s->name, 'H3O+') == 0), $prev1{s_h2o->gflag}, ite((strcmp(trxn.token[0].s->name, 'e-') == 0), $prev1{s_h2o->gflag}, ite((strcmp(trxn.token[0].s->name, 'H2O') == 0), ite(($prev1{$flive} && ite((parse_eq(line, construct(), 1) == 0), t4, 1)), 3, $prev1{s_h2o->gflag}), $prev1{s_h2o->gflag})))); else -> $prev1{s_h2o->gflag}); exit ((((t5 == -1) || (t5 == 3)) && switch(t3; 19 -> ite(t7, !($prev1{$flive} && t6), 1); else -> 1)) && switch(t3; 19 -> ite(t7, (!t6 && $prev1{$flive}), $prev1{$flive}); else -> $prev1{$flive})))"),
  ("s_ptr->dha", "t1 := init('no_check', 'check', 'gamma', 'mb', 'mass_balance', 'log_k', 'logk', 'delta_h', 'deltah', 'analytical_expression', 'a_e', 'ae', 'mole_balance', 'llnl_gamma', 'co2_llnl_gamma', 'activity_water', 'add_logk', 'add_log_k', 'add_constant', 'dw', 'erm_ddl', 'millero', 'vm', 'viscosity'); t2 := get_option(t1, 24, &next_char); t3 := ite((t2 == -4), $prev1{opt_save}, t2); t4 := !$prev1{$flive}; t5 := ite(($prev1{s_ptr} == NULL), t4, 1); t6 := ($prev1{$flive} && t5); t7 := get_option#out2(t1, 24); t8 := switch(t3; -1 -> -1; -2 -> 3; else -> $prev1{return_value}); t9 := (ite(t5, sscanf(t7, '%lf%lf%lf%lf%lf%lf%lf', &s_ptr->dw, &s_ptr->dw_t, &s_ptr->dw_a, &s_ptr->dw_a2, &s_ptr->dw_a_visc, &s_ptr->dw_a3, &s_ptr->dw_a_v_dif), $prev1{i}) < 1); fold($k1 from -  while true; init s_ptr->dha; step switch(t3; -4 -> ite(($prev1{$flive} && ite((parse_eq(line, construct(), 1) == 0), t4, 1)), 0.0, $prev1{s_ptr->dha}); 13 -> ite(t6, sscanf#out2(t7, '%lf'), $prev1{s_ptr->dha}); 2 -> ite(t6, sscanf#out2(t7, '%lf%lf'), $prev1{s_ptr->dha}); else -> $prev1{s_ptr->dha}); exit ((((t8 == -1) || (t8 == 3)) && switch(t3; 19 -> ite(t9, !t6, 1); else -> 1)) && switch(t3; 19 -> ite(t9, (!t5 && $prev1{$flive}), $prev1{$flive}); else -> $prev1{$flive})))"),
  ("s_ptr->dhb", "t1 := init('no_check', 'check', 'gamma', 'mb', 'mass_balance', 'log_k', 'logk', 'delta_h', 'deltah', 'analytical_expression', 'a_e', 'ae', 'mole_balance', 'llnl_gamma', 'co2_llnl_gamma', 'activity_water', 'add_logk', 'add_log_k', 'add_constant', 'dw', 'erm_ddl', 'millero', 'vm', 'viscosity'); t2 := get_option(t1, 24, &next_char); t3 := ite((t2 == -4), $prev1{opt_save}, t2); t4 := !$prev1{$flive}; t5 := ($prev1{$flive} && ite((parse_eq(line, construct(), 1) == 0), t4, 1)); t6 := ite(($prev1{s_ptr} == NULL), t4, 1); t7 := ($prev1{$flive} && t6); t8 := get_option#out2(t1, 24); t9 := switch(t3; -1 -> -1; -2 -> 3; else -> $prev1{return_value}); t10 := (ite(t6, sscanf(t8, '%lf%lf%lf%lf%lf%lf%lf', &s_ptr->dw, &s_ptr->dw_t, &s_ptr->dw_a, &s_ptr->dw_a2, &s_ptr->dw_a_visc, &s_ptr->dw_a3, &s_ptr->dw_a_v_dif), $prev1{i}) < 1); fold($k1 from -  while true; init s_ptr->dhb; step switch(t3; -4 -> ite((equal(s_ptr->z, 0.0, 1e-09) == 1), ite(t5, 0.1, $prev1{s_ptr->dhb}), ite(t5, 0.0, $prev1{s_ptr->dhb})); 2 -> ite(t7, sscanf#out3(t8, '%lf%lf'), $prev1{s_ptr->dhb}); else -> $prev1{s_ptr->dhb}); exit ((((t9 == -1) || (t9 == 3)) && switch(t3; 19 -> ite(t10, !t7, 1); else -> 1)) && switch(t3; 19 -> ite(t10, (!t6 && $prev1{$flive}), $prev1{$flive}); else -> $prev1{$flive})))"),
  ("s_ptr->gflag", "t1 := init('no_check', 'check', 'gamma', 'mb', 'mass_balance', 'log_k', 'logk', 'delta_h', 'deltah', 'analytical_expression', 'a_e', 'ae', 'mole_balance', 'llnl_gamma', 'co2_llnl_gamma', 'activity_water', 'add_logk', 'add_log_k', 'add_constant', 'dw', 'erm_ddl', 'millero', 'vm', 'viscosity'); t2 := get_option(t1, 24, &next_char); t3 := ite((t2 == -4), $prev1{opt_save}, t2); t4 := !$prev1{$flive}; t5 := ($prev1{$flive} && ite((parse_eq(line, construct(), 1) == 0), t4, 1)); t6 := ite(($prev1{s_ptr} == NULL), t4, 1); t7 := ($prev1{$flive} && t6); t8 := switch(t3; -1 -> -1; -2 -> 3; else -> $prev1{return_value}); t9 := (ite(t6, sscanf(get_option#out2(t1, 24), '%lf%lf%lf%lf%lf%lf%lf', &s_ptr->dw, &s_ptr->dw_t, &s_ptr->dw_a, &s_ptr->dw_a2, &s_ptr->dw_a_visc, &s_ptr->dw_a3, &s_ptr->dw_a_v_dif), $prev1{i}) < 1); fold($k1 from -  while true; init s_ptr->gflag; step switch(t3; -4 -> ite((equal(s_ptr->z, 0.0, 1e-09) == 1), ite(t5, 0, $prev1{s_ptr->gflag}), ite(t5, 1, $prev1{s_ptr->gflag})); 13 -> ite(t7, 7, $prev1{s_ptr->gflag}); 14 -> ite(t7, 8, $prev1{s_ptr->gflag}); 15 -> ite(t7, 9, $prev1{s_ptr->gflag}); 2 -> ite(t7, 2, $prev1{s_ptr->gflag}); else -> $prev1{s_ptr->gflag}); exit ((((t8 == -1) || (t8 == 3)) && switch(t3; 19 -> ite(t9, !t7, 1); else -> 1)) && switch(t3; 19 -> ite(t9, (!t6 && $prev1{$flive}), $prev1{$flive}); else -> $prev1{$flive})))")
] := rfl

end PhreeqcVerif.C16Src

/-! # generated definitions = hand models

`tools/gen_pitzer.py` turns the operator tree of each stored quantity of the source into a definition over `[NumOps α]`
(`Gen/GammaSrc.lean`, regenerated on every run).  The theorems below prove those definitions equal to the hand models the
other theorems of this file are about, so that those theorems are statements about what the source computes. -/
namespace PhreeqcVerif.C16Gen
open Lean Elab Tactic Meta in
/-- close `a = b` with `Eq.refl a` and leave the definitional-equality check to the kernel (whose conversion checker
shares work on terms with many repeated sub-terms, where the elaborator's unifier does not) -/
elab "kernel_rfl" : tactic => do
  let g ← getMainGoal
  let t ← instantiateMVars (← g.getType)
  let some (_, a, _) := t.eq? | throwError "kernel_rfl: goal is not an equality"
  g.assign (← mkEqRefl a)

open PhreeqcVerif PhreeqcVerif.Gen.GammaSrc PhreeqcVerif.Pitzer NumOps

variable {α : Type} [NumOps α] [∀ a b : α, Decidable (a < b)] [∀ a b : α, Decidable (a ≤ b)]

/-! ## `gammas()`: the generated trees are the branches of `Gamma.lgOf` -/

theorem lg0_src (dhb mu old : α) : lg_gflag0 true dhb mu old = Gamma.uncharged (Gamma.clampMu mu) dhb := rfl
theorem lg1_src (z a mu old : α) : lg_gflag1 true z a mu old = Gamma.davies a (Gamma.clampMu mu) z := rfl
theorem lg2_src (a mu z dha b dhb old : α) :
    lg_gflag2 true a mu z dha b dhb old = Gamma.wateq a b (Gamma.clampMu mu) z dha dhb := rfl
theorem lg3_src (old : α) : lg_gflag3 true old = lit 0 := rfl
theorem lg5_src (old : α) : lg_gflag5 true old = lit 0 := rfl
theorem lg7_src (z old aL mu dha bL bd : α) :
    lg_gflag7 true z true old aL mu dha bL bd = Gamma.bdot aL bL bd (Gamma.clampMu mu) z dha := rfl
theorem lg8_src (c0 c1 tk c2 mu c3 c4 old : α) :
    lg_gflag8 true true c0 c1 tk c2 mu c3 c4 (ln (lit 10)) old = Gamma.co2Poly c0 c1 c2 c3 c4 tk (Gamma.clampMu mu) := rfl
theorem lg9_src (la gfw old : α) : lg_gflag9 true la (ln (lit 10)) gfw old = Gamma.actWater la gfw := rfl

/-- a guard that does not hold (Pitzer / SIT model active: `gammas` returns before the loop) leaves the old value -/
theorem lg_src_dead (z a mu old : α) : lg_gflag1 false z a mu old = old := rfl

/-- **`lgOf` is what the source computes**: for every aqueous branch the value of `Gamma.lgOf` at the clamped ionic
strength is the generated tree of that `gflag` case (LLNL parameters present, `LOG_10 = ln 10`) -/
theorem lgOf_src (e : Gamma.Env α) (mu z dha dhb old : α) (hmu : e.mu = Gamma.clampMu mu) (hl : e.hasLlnl = true) :
    Gamma.lgOf e .uncharged z dha dhb = some (lg_gflag0 true dhb mu old) ∧
    Gamma.lgOf e .davies z dha dhb = some (lg_gflag1 true z e.a mu old) ∧
    Gamma.lgOf e .wateq z dha dhb = some (lg_gflag2 true e.a mu z dha e.b dhb old) ∧
    Gamma.lgOf e .unity z dha dhb = some (lg_gflag3 true old) ∧
    Gamma.lgOf e .unity5 z dha dhb = some (lg_gflag5 true old) ∧
    Gamma.lgOf e .llnl z dha dhb = some (lg_gflag7 true z true old e.aL mu dha e.bL e.bdotL) ∧
    Gamma.lgOf e .actWater z dha dhb = some (lg_gflag9 true e.laH2O (ln (lit 10)) e.gfwWater old) := by
  simp only [Gamma.lgOf, hmu, hl, if_true]
  exact ⟨rfl, rfl, rfl, rfl, rfl, rfl, rfl⟩

/-- the interpolated LLNL constants: `(1 − f)·v[ifirst] + f·v[ilast]` with the weight of `Gamma.weight` -/
theorem llnl_blend_src (ts vs : List α) (tc old : α) (i j : Nat) :
    a_llnl_src true true (decide (j = i)) tc (ts.getD i (lit 0)) (ts.getD j (lit 0)) (vs.getD i (lit 0)) (vs.getD j (lit 0)) old
      = Gamma.blend (Gamma.weight ts tc i j) vs i j ∧
    b_llnl_src true true (decide (j = i)) tc (ts.getD i (lit 0)) (ts.getD j (lit 0)) (vs.getD i (lit 0)) (vs.getD j (lit 0)) old
      = Gamma.blend (Gamma.weight ts tc i j) vs i j ∧
    bdot_llnl_src true true (decide (j = i)) tc (ts.getD i (lit 0)) (ts.getD j (lit 0)) (vs.getD i (lit 0)) (vs.getD j (lit 0)) old
      = Gamma.blend (Gamma.weight ts tc i j) vs i j := by
  by_cases h : j = i <;> simp [a_llnl_src, b_llnl_src, bdot_llnl_src, Gamma.blend, Gamma.weight, h]

/-! ## `G`, `GP`, `calc_pitz_param`, `calc_sit_param` -/

theorem g_src_eq (y : α) : g_src y = Pitzer.G y := rfl
theorem gp_src_eq (y : α) : gp_src y = Pitzer.GP y := rfl
theorem calc_param_src_eq (a0 a1 a2 a3 a4 a5 tk : α) :
    calc_param_src tk (lit (29815 / 100)) a0 a1 a2 a3 a4 a5 = Pitzer.calcParam a0 a1 a2 a3 a4 a5 tk := rfl
theorem calc_sit_param_src_eq (a0 a1 a2 a3 a4 tk : α) :
    calc_sit_param_src tk (lit (29815 / 100)) a0 a1 a2 a3 a4 = Pitzer.calcSitParam a0 a1 a2 a3 a4 tk := rfl


/-! ## `pitzer()`: per parameter type, the additions the source makes are the ones of the model

`P t` is a model parameter of type `t` whose ionic-strength functions are the ones the source evaluates in place:
`g = G(α√I)`, `g′ = GP(α√I)`, `exp(−α√I)`, and whose `c0den` is `2·sqrt|z0 z1|`. -/

/-- the model parameter the source's quantities of one loop iteration denote -/
def srcParam (t : PType) (i0 i1 i2 : Nat) (p alpha l0 l1 l2 os et etp mu : α) (z : Nat → α) : PParam α :=
  { type := t, i0 := i0, i1 := i1, i2 := i2, p := p, c0den := lit 2 * sqrt (absv (z i0 * z i1)),
    ln0 := l0, ln1 := l1, ln2 := l2, os := os, g := G (alpha * sqrt mu), gp := GP (alpha * sqrt mu),
    ex := exp ((-alpha) * sqrt mu), etheta := et, ethetap := etp }

section
variable (i0 i1 i2 : Nat) (p alpha l0 l1 l2 os et etp mu bigZ : α) (z m : Nat → α) (present : Nat → Bool) (ue : Bool)

local notation "P" t => srcParam t i0 i1 i2 p alpha l0 l1 l2 os et etp mu z

theorem pz_b0_src :
    lnTermsConst (P .b0) m bigZ present = pz_ln_b0 i0 (m i1) p i1 (m i0) ∧ lnTermsI (P .b0) m ue = [] ∧
    osConst (P .b0) m bigZ present = pz_os_b0 (m i0) (m i1) p ∧ osI (P .b0) m mu ue = lit 0 ∧
    csumOf (P .b0) m = pz_csum_b0 ∧ fVar (P .b0) m mu ue = pz_fvar_b0 := ⟨rfl, rfl, rfl, rfl, rfl, rfl⟩

theorem pz_b1_src :
    lnTermsConst (P .b1) m bigZ present = [] ∧ lnTermsI (P .b1) m ue = pz_ln_b1 p i0 (m i1) alpha mu i1 (m i0) ∧
    osConst (P .b1) m bigZ present = lit 0 ∧ osI (P .b1) m mu ue = pz_os_b1 (m i0) (m i1) p alpha mu ∧
    csumOf (P .b1) m = pz_csum_b1 ∧ fVar (P .b1) m mu ue = pz_fvar_b1 p (m i0) (m i1) alpha mu := ⟨rfl, rfl, rfl, rfl, rfl, rfl⟩

theorem pz_b2_src :
    lnTermsConst (P .b2) m bigZ present = [] ∧ lnTermsI (P .b2) m ue = pz_ln_b2 p i0 (m i1) alpha mu i1 (m i0) ∧
    osConst (P .b2) m bigZ present = lit 0 ∧ osI (P .b2) m mu ue = pz_os_b2 (m i0) (m i1) p alpha mu ∧
    csumOf (P .b2) m = pz_csum_b2 ∧ fVar (P .b2) m mu ue = pz_fvar_b2 p (m i0) (m i1) alpha mu := ⟨rfl, rfl, rfl, rfl, rfl, rfl⟩

theorem pz_c0_src :
    lnTermsConst (P .c0) m bigZ present = pz_ln_c0 i0 (m i1) bigZ p (z i0) (z i1) i1 (m i0) ∧ lnTermsI (P .c0) m ue = [] ∧
    osConst (P .c0) m bigZ present = pz_os_c0 (m i0) (m i1) bigZ p (z i0) (z i1) ∧ osI (P .c0) m mu ue = lit 0 ∧
    csumOf (P .c0) m = pz_csum_c0 (m i0) (m i1) p (z i0) (z i1) ∧ fVar (P .c0) m mu ue = pz_fvar_c0 :=
  ⟨rfl, rfl, rfl, rfl, rfl, rfl⟩

theorem pz_theta_src :
    lnTermsConst (P .theta) m bigZ present = pz_ln_theta i0 (m i1) p i1 (m i0) ∧ lnTermsI (P .theta) m ue = [] ∧
    osConst (P .theta) m bigZ present = pz_os_theta (m i0) (m i1) p ∧ osI (P .theta) m mu ue = lit 0 ∧
    csumOf (P .theta) m = pz_csum_theta ∧ fVar (P .theta) m mu ue = pz_fvar_theta := ⟨rfl, rfl, rfl, rfl, rfl, rfl⟩

theorem pz_lambda_src :
    lnTermsConst (P .lambda) m bigZ present = pz_ln_lambda i0 (m i1) p l0 i1 (m i0) l1 ∧ lnTermsI (P .lambda) m ue = [] ∧
    osConst (P .lambda) m bigZ present = pz_os_lambda (m i0) (m i1) p os ∧ osI (P .lambda) m mu ue = lit 0 ∧
    csumOf (P .lambda) m = pz_csum_lambda ∧ fVar (P .lambda) m mu ue = pz_fvar_lambda := ⟨rfl, rfl, rfl, rfl, rfl, rfl⟩

theorem pz_etheta_src :
    lnTermsConst (P .etheta) m bigZ present = [] ∧ lnTermsI (P .etheta) m ue = pz_ln_etheta ue i0 (m i1) et i1 (m i0) ∧
    osConst (P .etheta) m bigZ present = lit 0 ∧ osI (P .etheta) m mu ue = pz_os_etheta (m i0) (m i1) et mu etp ue ∧
    csumOf (P .etheta) m = pz_csum_etheta ∧ fVar (P .etheta) m mu ue = pz_fvar_etheta ue (m i0) (m i1) etp := by
  refine ⟨rfl, ?_, rfl, ?_, rfl, ?_⟩ <;> cases ue <;> rfl

/-- ψ, ζ, η: the source skips the parameter when the third species is absent (`IPRSNT[i2] == FALSE`) -/
theorem pz_psi_zeta_eta_src :
    lnTermsConst (P .psi) m bigZ present = pz_ln_psi (!present i2) i0 (m i1) (m i2) p i1 (m i0) i2 ∧
    lnTermsConst (P .zeta) m bigZ present = pz_ln_zeta (!present i2) i0 (m i1) (m i2) p i1 (m i0) i2 ∧
    lnTermsConst (P .eta) m bigZ present = pz_ln_eta (!present i2) i0 (m i1) (m i2) p i1 (m i0) i2 ∧
    osConst (P .psi) m bigZ present = pz_os_psi (m i0) (m i1) (m i2) p (!present i2) ∧
    osConst (P .zeta) m bigZ present = pz_os_zeta (m i0) (m i1) (m i2) p (!present i2) ∧
    osConst (P .eta) m bigZ present = pz_os_eta (m i0) (m i1) (m i2) p (!present i2) ∧
    lnTermsI (P .psi) m ue = [] ∧ lnTermsI (P .zeta) m ue = [] ∧ lnTermsI (P .eta) m ue = [] ∧
    osI (P .psi) m mu ue = lit 0 ∧ osI (P .zeta) m mu ue = lit 0 ∧ osI (P .eta) m mu ue = lit 0 ∧
    csumOf (P .psi) m = pz_csum_psi ∧ csumOf (P .zeta) m = pz_csum_zeta ∧ csumOf (P .eta) m = pz_csum_eta :=
  ⟨ite_not_swap _ _ _, ite_not_swap _ _ _, ite_not_swap _ _ _, ite_not_swap _ _ _, ite_not_swap _ _ _, ite_not_swap _ _ _,
    rfl, rfl, rfl, rfl, rfl, rfl, rfl, rfl, rfl⟩

theorem pz_mu_src :
    lnTermsConst (P .mu) m bigZ present = pz_ln_mu (!present i2) i0 (m i1) (m i2) p l0 i1 (m i0) l1 i2 l2 ∧
    osConst (P .mu) m bigZ present = pz_os_mu (m i0) (m i1) (m i2) p os (!present i2) ∧
    lnTermsI (P .mu) m ue = [] ∧ osI (P .mu) m mu ue = lit 0 ∧ csumOf (P .mu) m = pz_csum_mu :=
  ⟨ite_not_swap _ _ _, ite_not_swap _ _ _, rfl, rfl, rfl⟩

end

/-! ## Debye–Hückel start values, `COSMOT`, `AW` -/

theorem pz_f_init0_src (a0 mu : α) : pz_f_init0 a0 mu = fDH a0 (sqrt mu) (lit (12 / 10)) := rfl

/-- `F1`, `F2` under pressure: the start values are the Debye–Hückel function with the `B1`, `B2` of `pcorrOf` -/
theorem pz_f_init12_src (patm tk a0 mu : α) :
    pz_f_init1 patm tk a0 mu
      = (if ((pcorrOf tk patm).active && !isZero (pcorrOf tk patm).b1) = true then fDH a0 (sqrt mu) (pcorrOf tk patm).b1
         else fDH a0 (sqrt mu) (lit (12 / 10))) ∧
    pz_f_init2 patm tk a0 mu
      = (if ((pcorrOf tk patm).active && !isZero (pcorrOf tk patm).b2) = true then fDH a0 (sqrt mu) (pcorrOf tk patm).b2
         else fDH a0 (sqrt mu) (lit (12 / 10))) := by
  unfold pz_f_init1 pz_f_init2 pcorrOf
  by_cases h : lit 1 < patm
  · simp only [h, if_true]
    exact ⟨ite_not_swap _ _ _, ite_not_swap _ _ _⟩
  · simp only [h, if_false]
    exact ⟨rfl, rfl⟩

theorem pz_osmot_init_src (a0 mu : α) : pz_osmot_init a0 mu = osmot0 a0 mu (sqrt mu) := rfl

/-- `COSMOT` and `AW` of the source are the ones of the model, in terms of the accumulated `OSMOT` and `OSUM` -/
theorem pz_cosmot_aw_src (x : PzIn α) (pc : PCorr α) :
    (pitzerP x pc).cosmot = pz_cosmot (pitzerP x pc).osmot (pitzerP x pc).osum ∧
    (pitzerP x pc).aw = pz_aw (pitzerP x pc).osum (pitzerP x pc).osmot := ⟨rfl, rfl⟩

/-! ## `sit()` -/

theorem sit_eps_src (x : SitIn α) (i0 i1 : Nat) (p acc : α) :
    sitTerms x ⟨false, i0, i1, p⟩ = sit_ln_eps i0 (x.m i1) p i1 (x.m i0) ∧
    sitTerms x ⟨true, i0, i1, p⟩ = sit_ln_eps1 i0 (x.m i1) x.mu p i1 (x.m i0) ∧
    sitOs x ⟨false, i0, i1, p⟩ acc = sit_os_eps (x.z i0) (x.z i1) acc (x.m i0) (x.m i1) p ∧
    sitOs x ⟨true, i0, i1, p⟩ acc = sit_os_eps1 (x.z i0) (x.z i1) acc (x.m i0) (x.m i1) p x.mu := by
  refine ⟨rfl, rfl, ?_, ?_⟩ <;>
    simp only [sitOs, sit_os_eps, sit_os_eps1, Bool.and_eq_true, Bool.false_eq_true, if_false, if_true]

theorem sit_scalars_src (y : SitIn α) (k : Nat) :
    sit_osmot_init y.a0 (ln (lit 10)) y.mu
      = (-(lit 2)) * (lit 3 * y.a0 / ln (lit 10)) / (lit (15 / 10) * lit (15 / 10) * lit (15 / 10))
          * ((lit 1 + lit (15 / 10) * sqrt y.mu) - lit 2 * ln (lit 1 + lit (15 / 10) * sqrt y.mu) - lit 1 / (lit 1 + lit (15 / 10) * sqrt y.mu)) ∧
    (sit y).cosmot = sit_cosmot (sit y).osmot (ln (lit 10)) (sit y).osum ∧
    (sit y).aw = sit_aw (sit y).osum (sit y).osmot (ln (lit 10)) := ⟨rfl, rfl, rfl⟩


/-! ## `ETHETAS`, `ETHETA_PARAMS` -/

theorem etheta_src_eq (zj zk jjk jjj jkk i : α) : etheta_src zj zk jjk jjj jkk i = ethetaOf zj zk i jjk jjj jkk := rfl
theorem ethetap_src_eq (zj zk pjk pjj pkk i jjk jjj jkk : α) :
    ethetap_src zj zk pjk pjj pkk i jjk jjj jkk = ethetapOf zj zk i jjk jjj jkk pjk pjj pkk := rfl

/-- the unrolled Clenshaw evaluation of the source (both coefficient tables, `L_Z`, the 19 steps) is `Pitzer.jay` -/
theorem jay_src_eq (x : α) : jay_src x = jay x := by kernel_rfl
theorem jprime_src_eq (x dk20 : α) : jprime_src x dk20 = jprime x dk20 := by kernel_rfl


end PhreeqcVerif.C16Gen
