import PhreeqcVerif.Model.Api
import PhreeqcVerif.Lemmas.Registry
import PhreeqcVerif.Lemmas.Settings
/-!
# C13 — setters and getters behave as a simple store; invalid ids and arguments change nothing
-/
namespace PhreeqcVerif.Settings
open PhreeqcVerif.Registry

theorem setSw_getSw (i : Inst) (s : Sw) (v : Bool) : (i.setSw s v).getSw s = v := by
  simp [Inst.setSw, Inst.getSw]

theorem setSw_other (i : Inst) (s t : Sw) (v : Bool) (h : t ≠ s) : (i.setSw s v).getSw t = i.getSw t := by
  simp [Inst.setSw, Inst.getSw, h]

/-- a switch setter changes no name, no selected-output setting and not the current user number -/
theorem setSw_frame (i : Inst) (s : Sw) (v : Bool) :
    (i.setSw s v).name = i.name ∧ (i.setSw s v).cur = i.cur ∧ (i.setSw s v).selFileOn = i.selFileOn ∧
    (i.setSw s v).selStrOn = i.selStrOn ∧ (i.setSw s v).selFileName = i.selFileName ∧ (i.setSw s v).id = i.id := by
  simp [Inst.setSw]

theorem setName_getName (i : Inst) (n : Nm) (s : String) (h : s.isEmpty = false) :
    (i.setName n (some s)).getName n = s := by
  simp [Inst.setName, Inst.getName, h]

theorem setName_other (i : Inst) (n m : Nm) (v : Option String) (h : m ≠ n) :
    (i.setName n v).getName m = i.getName m := by
  unfold Inst.setName Inst.getName
  cases v with
  | none => rfl
  | some s => by_cases he : s.isEmpty <;> simp [he, h]

/-- NULL and the empty string are rejected and change nothing -/
theorem setName_invalid (i : Inst) (n : Nm) : i.setName n none = i ∧ i.setName n (some "") = i := by
  constructor <;> simp [Inst.setName]

/-- a negative user number is rejected with VR_INVALIDARG and changes nothing -/
theorem setCur_invalid (i : Inst) (n : Int) (h : n < 0) : i.setCur n = (i, -3) := by
  have : ¬ 0 ≤ n := by omega
  simp [Inst.setCur, this]

theorem setCur_valid (i : Inst) (n : Int) (h : 0 ≤ n) : (i.setCur n).1.cur = n ∧ (i.setCur n).2 = 0 := by
  simp [Inst.setCur, h]

/-- **what a load preserves and what it resets** (`LoadDatabase` and `LoadDatabaseString`, successful or not: both start with
`UnLoadDatabase()` and save/restore the output, error and log file switches around the load): every switch, the four file
names and the per-number selected-output file names are kept; the current user number returns to 1, the per-number file and
string switches to their initial maps, the accumulated lines are cleared, the engine's SELECTED_OUTPUT blocks are forgotten -/
theorem load_preserves_and_resets (i : Inst) (ok : Bool) :
    (∀ s, (i.unload ok).getSw s = i.getSw s) ∧ (∀ n, (i.unload ok).getName n = i.getName n) ∧
    (i.unload ok).selFileName = i.selFileName ∧ (i.unload ok).id = i.id ∧
    (i.unload ok).cur = 1 ∧ (∀ k, ((i.unload ok).selFileOn.lookup k).getD false = false) ∧
    (∀ k, ((i.unload ok).selStrOn.lookup k).getD false = false) ∧ (i.unload ok).acc = false ∧
    (i.unload ok).engSel = [] ∧ (i.unload ok).loaded = ok :=
  ⟨fun _ => rfl, fun _ => rfl, rfl, rfl, rfl, fun k => Assoc.getD_lookup_singleton k 1 false,
    fun k => Assoc.getD_lookup_singleton k 1 false, rfl, rfl, rfl⟩

theorem setSelStrOn_get (i : Inst) (v : Bool) : (i.setSelStrOn v).getSelStrOn = v := by
  simp [Inst.setSelStrOn, Inst.getSelStrOn, lookup_setAssoc]

theorem setSelFileOn_get (i : Inst) (v : Bool) (h : 0 ≤ i.cur) : (i.setSelFileOn v).getSelFileOn = v := by
  simp [Inst.setSelFileOn, Inst.getSelFileOn, h, lookup_setAssoc]

theorem setSelStrOn_other_number (i : Inst) (v : Bool) (j : Int) (h : j ≠ i.cur) :
    (i.setSelStrOn v).selStrOn.lookup j = i.selStrOn.lookup j := by
  simp [Inst.setSelStrOn, lookup_setAssoc, h]

/-- documented defaults: all file sinks and string sinks off except error string, names embed the id -/
theorem defaults (id : Nat) :
    (fresh id).getSw .outFile = false ∧ (fresh id).getSw .outStr = false ∧ (fresh id).getSw .errFile = false ∧
    (fresh id).getSw .errStr = true ∧ (fresh id).getSw .logFile = false ∧ (fresh id).getSw .logStr = false ∧
    (fresh id).getSw .dumpFile = false ∧ (fresh id).getSw .dumpStr = false ∧ (fresh id).getSelFileOn = false ∧
    (fresh id).getSelStrOn = false ∧ (fresh id).cur = 1 ∧
    (fresh id).getName .out = s!"phreeqc.{id}.out" ∧ (fresh id).getName .dump = s!"dump.{id}.out" ∧
    (fresh id).getSelName = selName 1 id := by
  simp [fresh, Inst.getSw, Inst.getName, Inst.getSelFileOn, Inst.getSelStrOn, Inst.getSelName]

/-- a well-formed wrapper on a live id returns what the method returns -/
theorem capi_live (r : Reg Inst) (id : Int) (c : Call) (i : Inst) (h : r.lookup id = some i) :
    (capi r id c).2 = (i.call c).2 := by
  rw [capi, apply_snd, h]
  rfl

/-- a call with an id that is not live changes no instance and returns the invalid-instance result -/
theorem capi_dead (r : Reg Inst) (id : Int) (c : Call) (h : r.lookup id = none) :
    capi r id c = (r, badResult c) :=
  apply_of_none _ _ h

/-- a call on one instance never changes another instance's settings -/
theorem capi_other (r : Reg Inst) (id j : Int) (c : Call) (hj : j ≠ id) :
    (capi r id c).1.lookup j = r.lookup j :=
  (lookup_apply r id j _ _).trans (if_neg hj)

theorem getters_pure (i : Inst) :
    (∀ s, (i.call (.getSw s)).1 = i) ∧ (∀ n, (i.call (.getName n)).1 = i) ∧ (i.call .getCur).1 = i ∧
    (i.call .getSelFileOn).1 = i ∧ (i.call .getSelStrOn).1 = i ∧ (i.call .getSelName).1 = i := by
  simp [Inst.call]

/-! ### Refinement: the settings model is a plain key → value store -/

/-- the specification: one total value per key, no hidden structure -/
structure AStore where
  sw : Sw → Bool
  name : Nm → String
  cur : Int
  selFile : Int → Bool
  selStr : Int → Bool
  selName : Int → String

def upd {α} (f : Int → α) (k : Int) (v : α) : Int → α := fun j => if j = k then v else f j

/-- abstraction function: what the store holds for every key -/
def Inst.abs (i : Inst) : AStore :=
  ⟨i.sw, i.name, i.cur, fun k => (i.selFileOn.lookup k).getD false, fun k => (i.selStrOn.lookup k).getD false,
   fun k => (i.selFileName.lookup k).getD ""⟩

/-- calls of the setter/getter/load interface (everything except the two `Run*` effects) -/
def Call.isStore : Call → Bool
  | .defSel _ _ => false
  | .rerun => false
  | .runAcc => false
  | _ => true

def specCall : Call → AStore → AStore × Res
  | .setSw s v, a => ({ a with sw := fun t => if t = s then v else a.sw t }, .int 0)
  | .getSw s, a => (a, .int (b2i (a.sw s)))
  | .setName n (some s), a => (if s.isEmpty then a else { a with name := fun t => if t = n then s else a.name t }, .int 0)
  | .setName _ none, a => (a, .int 0)
  | .getName n, a => (a, .str (a.name n))
  | .setCur n, a => if 0 ≤ n then ({ a with cur := n }, .int 0) else (a, .int (-3))
  | .getCur, a => (a, .int a.cur)
  | .setSelFileOn v, a => (if 0 ≤ a.cur then { a with selFile := upd a.selFile a.cur v } else a, .int 0)
  | .getSelFileOn, a => (a, .int (b2i (a.selFile a.cur)))
  | .setSelStrOn v, a => ({ a with selStr := upd a.selStr a.cur v }, .int 0)
  | .getSelStrOn, a => (a, .int (b2i (a.selStr a.cur)))
  | .setSelName (some s), a => (if s.isEmpty then a else { a with selName := upd a.selName a.cur s }, .int 0)
  | .setSelName none, a => (a, .int 0)
  | .getSelName, a => (a, .str (a.selName a.cur))
  | .unload ok, a => ({ a with cur := 1, selFile := fun _ => false, selStr := fun _ => false }, .int (if ok then 0 else 1))
  | .defSel _ _, a => (a, .int 0)
  | .rerun, a => (a, .int 0)
  | .accumulate, a => (a, .int 0)
  | .clearAcc, a => (a, .int 0)
  | .runAcc, a => (a, .int 0)

theorem getD_lookup_setAssoc {β} (m : List (Int × β)) (k : Int) (v d : β) :
    (fun j => ((setAssoc m k v).lookup j).getD d) = upd (fun j => (m.lookup j).getD d) k v := by
  funext j
  rw [lookup_setAssoc, upd]
  split <;> rfl

/-- **refinement, one call**: every store call on the model acts on the abstraction exactly as the specification says, and
returns what the specification returns -/
theorem call_refines (i : Inst) (c : Call) (h : c.isStore = true) :
    (i.call c).1.abs = (specCall c i.abs).1 ∧ (i.call c).2 = (specCall c i.abs).2 := by
  cases c with
  | setName n v => cases v with
    | none => simp [Inst.call, specCall, Inst.abs, Inst.setName]
    | some s => by_cases he : s.isEmpty <;> simp [Inst.call, specCall, Inst.abs, Inst.setName, he]
  | setSelName v => cases v with
    | none => simp [Inst.call, specCall, Inst.abs, Inst.setSelName]
    | some s => by_cases he : s.isEmpty <;> simp [Inst.call, specCall, Inst.abs, Inst.setSelName, he, getD_lookup_setAssoc]
  | setCur n => by_cases hn : 0 ≤ n <;> simp [Inst.call, specCall, Inst.abs, Inst.setCur, hn]
  | setSelFileOn v =>
    by_cases hc : 0 ≤ i.cur <;> simp [Inst.call, specCall, Inst.abs, Inst.setSelFileOn, hc, getD_lookup_setAssoc]
  | setSelStrOn v => simp [Inst.call, specCall, Inst.abs, Inst.setSelStrOn, getD_lookup_setAssoc]
  | unload ok =>
    simp only [Inst.call, specCall, Inst.abs, Inst.unload, Assoc.getD_lookup_singleton, and_true]
  | defSel | rerun | runAcc => cases h
  -- the remaining calls unfold to the same term on both sides
  | _ => exact ⟨rfl, rfl⟩

def runCalls (i : Inst) : List Call → Inst × List Res
  | [] => (i, [])
  | c :: cs => let (j, r) := i.call c; let (k, rs) := runCalls j cs; (k, r :: rs)

def runSpec (a : AStore) : List Call → AStore × List Res
  | [] => (a, [])
  | c :: cs => let (b, r) := specCall c a; let (d, rs) := runSpec b cs; (d, r :: rs)

/-- **refinement, every call sequence**: the results of any sequence of store calls are those of the plain store -/
theorem calls_refine (cs : List Call) (h : ∀ c ∈ cs, c.isStore = true) (i : Inst) :
    (runCalls i cs).1.abs = (runSpec i.abs cs).1 ∧ (runCalls i cs).2 = (runSpec i.abs cs).2 := by
  induction cs generalizing i with
  | nil => simp [runCalls, runSpec]
  | cons c cs ih =>
    obtain ⟨h1, h2⟩ := call_refines i c (h c (by simp))
    obtain ⟨h3, h4⟩ := ih (fun d hd => h d (by simp [hd])) (i.call c).1
    simp only [runCalls, runSpec]
    rw [← h1, ← h2]
    exact ⟨h3, by rw [h4]⟩

/-! ### the same at the level of the C API: several instances behind ids -/

def absReg (r : Reg Inst) : Int → Option AStore := fun j => (r.lookup j).map Inst.abs

/-- specification of a C call: an id without a store gets the invalid-instance result and nothing changes; otherwise
only that id's store changes, as `specCall` says -/
def specCapi (g : Int → Option AStore) (id : Int) (c : Call) : (Int → Option AStore) × Res :=
  match g id with
  | none => (g, badResult c)
  | some a => ((fun j => if j = id then some (specCall c a).1 else g j), (specCall c a).2)

theorem capi_refines (r : Reg Inst) (id : Int) (c : Call) (h : c.isStore = true) :
    absReg (capi r id c).1 = (specCapi (absReg r) id c).1 ∧ (capi r id c).2 = (specCapi (absReg r) id c).2 := by
  cases hl : r.lookup id with
  | none => simp [capi_dead r id c hl, specCapi, absReg, hl]
  | some s =>
    obtain ⟨h1, h2⟩ := call_refines s c h
    refine ⟨?_, ?_⟩
    · funext j
      simp only [specCapi, absReg, capi, lookup_apply, hl, Option.map_some, ← h1]
      split <;> rfl
    · simp [specCapi, absReg, hl, capi_live r id c s hl, h2]

/-! ### The id enters results only through default file names -/

def srunCalls (i : SInst) : List Call → SInst × List SRes
  | [] => (i, [])
  | c :: cs => let (j, r) := i.call c; let (k, rs) := srunCalls j cs; (k, r :: rs)

theorem runCalls_render (id : Nat) (cs : List Call) (s : SInst) :
    runCalls (s.render id) cs = (((srunCalls s cs).1).render id, (srunCalls s cs).2.map (SRes.render id)) := by
  induction cs generalizing s with
  | nil => rfl
  | cons c cs ih => simp only [runCalls, srunCalls, call_render, ih, List.map_cons]

/-- **results are a function of the call sequence alone, except id-derived default file names**: for every call sequence
(setters, getters, loads, selected-output definitions, runs) the results on a fresh instance with id `id` are the rendering,
with `id`, of results computed without any id. Hence the same sequence at two ids gives results that differ at most in the
rendered default names. -/
theorem results_depend_on_id_only_through_default_names (cs : List Call) (id : Nat) :
    (runCalls (fresh id) cs).2 = (srunCalls sfresh cs).2.map (SRes.render id) := by
  rw [fresh_render, runCalls_render]

/-- integer results (switches, user numbers, result codes) do not depend on the id at all -/
theorem int_results_id_independent (cs : List Call) (a b : Nat) (k : Nat) (v : Int)
    (h : (runCalls (fresh a) cs).2[k]? = some (.int v)) : (runCalls (fresh b) cs).2[k]? = some (.int v) := by
  rw [results_depend_on_id_only_through_default_names, List.getElem?_map] at h ⊢
  obtain ⟨x, hx, hr⟩ := Option.map_eq_some_iff.1 h
  cases x with
  | int w => rw [hx]; exact congrArg some hr
  | name n => simp [SRes.render] at hr

/-! ### The model's invalid-instance results are the documented ones -/

/-- the C function behind each call of the store interface -/
def Call.cName : Call → String
  | .setSw .outFile _ => "SetOutputFileOn" | .setSw .outStr _ => "SetOutputStringOn" | .setSw .errFile _ => "SetErrorFileOn"
  | .setSw .errStr _ => "SetErrorStringOn" | .setSw .errOn _ => "SetErrorOn" | .setSw .logFile _ => "SetLogFileOn"
  | .setSw .logStr _ => "SetLogStringOn" | .setSw .dumpFile _ => "SetDumpFileOn" | .setSw .dumpStr _ => "SetDumpStringOn"
  | .getSw .outFile => "GetOutputFileOn" | .getSw .outStr => "GetOutputStringOn" | .getSw .errFile => "GetErrorFileOn"
  | .getSw .errStr => "GetErrorStringOn" | .getSw .errOn => "GetErrorOn" | .getSw .logFile => "GetLogFileOn"
  | .getSw .logStr => "GetLogStringOn" | .getSw .dumpFile => "GetDumpFileOn" | .getSw .dumpStr => "GetDumpStringOn"
  | .setName .out _ => "SetOutputFileName" | .setName .err _ => "SetErrorFileName" | .setName .log _ => "SetLogFileName"
  | .setName .dump _ => "SetDumpFileName"
  | .getName .out => "GetOutputFileName" | .getName .err => "GetErrorFileName" | .getName .log => "GetLogFileName"
  | .getName .dump => "GetDumpFileName"
  | .setCur _ => "SetCurrentSelectedOutputUserNumber" | .getCur => "GetCurrentSelectedOutputUserNumber"
  | .setSelFileOn _ => "SetSelectedOutputFileOn" | .getSelFileOn => "GetSelectedOutputFileOn"
  | .setSelStrOn _ => "SetSelectedOutputStringOn" | .getSelStrOn => "GetSelectedOutputStringOn"
  | .setSelName _ => "SetSelectedOutputFileName" | .getSelName => "GetSelectedOutputFileName"
  | .unload _ => "LoadDatabase" | .defSel _ _ => "RunString" | .rerun => "RunString"
  | .accumulate => "AccumulateLine" | .clearAcc => "ClearAccumulatedLines" | .runAcc => "RunAccumulated"

/-- what a documentation class means as a result value -/
def docResult (name : String) : PhreeqcVerif.Api.BadDoc → Option Res
  | .code | .negative | .silentCode => some (.int (-6))
  | .silentZero => some (.int 0)
  | .silentEmpty => some (.str "")
  | .silentMsg => some (.str (PhreeqcVerif.Api.invalidMsg name))
  | .silentVoid | .noId => none

/-- the invalid-instance result the model returns for each call is the entry of the documentation table for its C function
(so `capi_dead` speaks about the documented results) -/
theorem badResult_matches_doc (c : Call) :
    (PhreeqcVerif.Api.specOf c.cName).bind (docResult c.cName) = some (badResult c) := by
  -- `decide`, not `decide +kernel`: the latter makes every case an auxiliary declaration of its own, and the kernel encodes the
  -- string literals of `docSpec` again for each of them; as parts of this one proof term they are encoded once
  cases c with
  | setSw s v | getSw s => cases s <;> (simp only [Call.cName, badResult]; decide)
  | setName n v | getName n => cases n <;> (simp only [Call.cName, badResult]; decide)
  | _ => simp only [Call.cName, badResult]; decide

/-- non-vacuity of the refinement and of the id theorem on one history: switches, names, user numbers, a load, selected-output
definitions with and without `-file` -/
example :
    let cs : List Call := [.setSw .outFile true, .setName .out (some "a.out"), .setName .err (some ""), .setCur 5, .setSelFileOn true,
      .setCur (-2), .getCur, .getSelFileOn, .setCur 1, .getSelFileOn, .getName .out, .getName .err, .unload true, .defSel 5 none,
      .setCur 5, .getSelName, .defSel 2 (some "u.sel"), .setCur 2, .getSelName, .getSelFileOn]
    (runCalls (fresh 3) cs).2 = [.int 0, .int 0, .int 0, .int 0, .int 0, .int (-3), .int 5, .int 1, .int 0, .int 0, .str "a.out",
      .str "phreeqc.3.err", .int 0, .int 0, .int 0, .str "selected_5.3.out", .int 0, .int 0, .str "u.sel", .int 0] ∧
    (runCalls (fresh 8) cs).2[15]? = some (.str "selected_5.8.out") ∧
    (runSpec (fresh 3).abs (cs.take 12)).2 = (runCalls (fresh 3) (cs.take 12)).2 := by decide +kernel

end PhreeqcVerif.Settings
