import PhreeqcVerif.Lemmas.Assemblage
/-! # C03 — reactant assemblages end in a valid heterogeneous equilibrium state

Theorems about `Model/Assemblage.lean` (the model of `model()` with its `remove_unstable_phases` re-entry, of the PP /
SS_MOLES / EXCH / SURFACE rows of `residuals` and `check_residuals`, of the pure-phase part of `ineq`'s special case and
of `reset`, of `calc_ss_fractions` / `ss_ideal` / `ss_binary` / `ss_calc_a0_a1`).  All statements are over `Rat` with
*uninterpreted* `ln` (`ratOps f`, every `f`): about `LOG_10 = ln 10` only `0 < LOG_10` is assumed where needed.
The tie to the C++ is the correspondence check `tools/props/c03.py` (`pmodel assemblage` executes the same definitions on
`Float` against in-process dumps of real runs and against crafted calls of the real `residuals` / `check_residuals` /
`ineq` / `reset`). -/
set_option linter.style.haveILetI false
namespace PhreeqcVerif.Assemblage
open NumOps

/-! ## `model()`: what a completed call guarantees -/

/-- for ANY loop body and any iteration budget: if `model()` completes without error then in the
final state `residuals` reported CONVERGED, `remove_unstable_phases` is clear and `check_residuals` neither printed an
error nor asked for another pass -/
theorem model_ok_rows (f : TransFns Rat) (step : State Rat → State Rat) (itmax n : Nat) (s s' : State Rat) :
    letI := ratOps f
    runModel step itmax n s = some s' →
      converged s' = true ∧ s'.removeUnstable = false ∧ checkResiduals s' = (false, false) := by
  letI := ratOps f
  exact fun h => (runModel_exit step itmax n s s' (fun _ => True) (fun _ _ => trivial) trivial h).2

/-- an invariant of the rows that the loop body preserves holds in the state `model()` returns -/
theorem runModel_invariant (f : TransFns Rat) (step : State Rat → State Rat) (itmax n : Nat) (s s' : State Rat)
    (Inv : List (Row Rat) → Prop) :
    letI := ratOps f
    (∀ t, Inv t.rows → Inv (step t).rows) → Inv s.rows → runModel step itmax n s = some s' → Inv s'.rows := by
  letI := ratOps f
  exact fun hstep hi h => (runModel_exit step itmax n s s' Inv hstep hi h).1

/-! ## pure phases: the admissible region of each residual branch, and `ValidPhase` -/

/-- admissible region of an unrestricted pure phase (the residual is `f·LOG_10`, `f = target − SI`):
not supersaturated beyond `tol`; when present not undersaturated beyond `100·tol` -/
theorem model_ok_pp_admissible (f : TransFns Rat) (step : State Rat → State Rat) (itmax n : Nat) (s s' : State Rat) (u : PP Rat) :
    letI := ratOps f
    runModel step itmax n s = some s' → Row.pp u ∈ s'.rows → u.addFormula = false → u.dissolveOnly = false →
      (-s'.env.tol < u.f * LOG_10) ∧ (0 < u.moles → u.f * LOG_10 < s'.env.tol * 100) := by
  letI := ratOps f
  intro h hu ha hd
  have g := (gate_rows step itmax n s s' h _ hu).2
  dsimp +instances only [Row.check, rat_lit] at g
  simp only [ha, hd, Bool.not_false, if_true, Bool.false_eq_true, if_false] at g
  split_ifs at g with c1 c2
  · cases g
  · cases g
  · simp only [Bool.and_eq_true, decide_eq_true_eq] at c1 c2
    exact ⟨not_le.1 c2, fun hm => not_le.1 fun hc => c1 ⟨hc, hm⟩⟩

/-- admissible region of a `dissolve_only` phase: when present not undersaturated beyond `tol`; when below its initial
amount not supersaturated beyond `tol` -/
theorem model_ok_pp_admissible_dissolve (f : TransFns Rat) (step : State Rat → State Rat) (itmax n : Nat) (s s' : State Rat)
    (u : PP Rat) :
    letI := ratOps f
    runModel step itmax n s = some s' → Row.pp u ∈ s'.rows → u.addFormula = false → u.dissolveOnly = true →
      (0 < u.moles → u.f * LOG_10 ≤ s'.env.tol) ∧ (u.moles < u.initial → -s'.env.tol ≤ u.f * LOG_10) := by
  letI := ratOps f
  intro h hu ha hd
  have g := (gate_rows step itmax n s s' h _ hu).1
  dsimp +instances only [Row.fails, rat_lit] at g
  simp only [ha, hd, Bool.not_false, if_true, Bool.or_eq_false_iff, Bool.and_eq_false_imp, decide_eq_true_eq,
    decide_eq_false_iff_not, not_lt] at g
  exact ⟨fun hm => not_lt.1 fun hc => (g.1 hc).not_gt hm, fun hm => not_lt.1 fun hc => (g.2 hc).not_gt (sub_pos.2 hm)⟩

/-- for ANY loop body: if `model()` completes without error, every pure-phase unknown
(without alternative formula) whose amount respects the bounds `reset()` maintains (see `restrictions_respected`) is a
`ValidPhase` with the property's tolerance `ε`, provided `100·convergence_tolerance ≤ ε·ln 10`
(default 1e-8: `1e-6 ≤ 2.30e-6`).  `inert` is the amount `set_inert_moles` put aside (0 unless precipitate_only). -/
theorem model_ok_phases_valid (f : TransFns Rat) (step : State Rat → State Rat) (itmax n : Nat) (s s' : State Rat)
    (u : PP Rat) (ε : Rat) :
    letI := ratOps f
    runModel step itmax n s = some s' → Row.pp u ∈ s'.rows → u.addFormula = false →
      0 < (LOG_10 : Rat) → 0 ≤ s'.env.tol → s'.env.tol * 100 ≤ ε * LOG_10 →
      Bounds u → (u.precipOnly = false → u.inert = 0) → (u.precipOnly = true → u.dissolveOnly = false) →
      ValidPhase ε u.final := by
  letI := ratOps f
  intro h hu ha hL htol hε hb hin hpd
  have hte : s'.env.tol ≤ ε * LOG_10 := (le_mul_of_one_le_right htol (by norm_num)).trans hε
  cases hd : u.dissolveOnly with
  | true =>
    have hp : u.precipOnly = false := Bool.eq_false_iff.2 fun hp => Bool.false_ne_true ((hpd hp).symm.trans hd)
    have ⟨a1, a2⟩ := model_ok_pp_admissible_dissolve f step itmax n s s' u h hu ha hd
    simp only [ValidPhase, PP.final, hd, hp, hin hp, rat_lit, add_zero, if_true, Bool.false_eq_true, if_false]
    exact ⟨hb.2 hd, fun hm => neg_le_neg (le_of_mul_le hL hte (a1 hm)), fun hm => neg_le_of_le_mul hL hte (a2 hm), hb.1⟩
  | false =>
    have ⟨a1, a2⟩ := model_ok_pp_admissible f step itmax n s s' u h hu ha hd
    have hup : -u.f ≤ ε := neg_le_of_le_mul hL hte a1.le
    have hlow (hm : 0 < u.moles) : -ε ≤ -u.f := neg_le_neg (le_of_mul_le hL hε (a2 hm).le)
    cases hp : u.precipOnly with
    | false =>
      simp only [ValidPhase, PP.final, hd, hp, hin hp, rat_lit, add_zero, Bool.false_eq_true, if_false]
      exact ⟨hb.1, fun hm => ⟨hlow hm, hup⟩, hup⟩
    | true =>
      simp only [ValidPhase, PP.final, hd, hp, Bool.false_eq_true, if_false, if_true]
      exact ⟨le_add_of_nonneg_left hb.1, fun hm => ⟨hlow (pos_of_lt_add_left hm), hup⟩, hup⟩

/-- if the loop body keeps the amount bounds of the pure phases (its `reset()` part does:
`restrictions_respected`; nothing else in the body writes pure-phase amounts), then a call that completes without error
ends with EVERY pure phase (without alternative formula) valid -/
theorem model_ok_phases_valid_all (f : TransFns Rat) (step : State Rat → State Rat) (itmax n : Nat) (s s' : State Rat) (ε : Rat) :
    letI := ratOps f
    let Inv : List (Row Rat) → Prop := fun rows => ∀ u, Row.pp u ∈ rows →
      Bounds u ∧ (u.precipOnly = false → u.inert = 0) ∧ (u.precipOnly = true → u.dissolveOnly = false)
    (∀ t, Inv t.rows → Inv (step t).rows) → Inv s.rows → runModel step itmax n s = some s' →
      0 < (LOG_10 : Rat) → 0 ≤ s'.env.tol → s'.env.tol * 100 ≤ ε * LOG_10 →
      ∀ u, Row.pp u ∈ s'.rows → u.addFormula = false → ValidPhase ε u.final := by
  intro Inv hstep hi h hL htol hε u hu ha
  have hinv := runModel_invariant f step itmax n s s' Inv hstep hi h u hu
  exact model_ok_phases_valid f step itmax n s s' u ε h hu ha hL htol hε hinv.1 hinv.2.1 hinv.2.2

/-- the executable test used on the dumps decides `ValidPhase` -/
theorem validPhaseB_iff (f : TransFns Rat) (ε : Rat) (p : Final Rat) :
    letI := ratOps f
    validPhaseB ε p = true ↔ ValidPhase ε p := by
  unfold validPhaseB ValidPhase
  split_ifs <;> simp only [Bool.and_eq_true, Bool.or_eq_true, Bool.not_eq_true', decide_eq_true_eq, decide_eq_false_iff_not,
    ← imp_iff_not_or, and_assoc]

/-! ## `reset()`: amounts stay within their bounds, whatever `cl1` returns -/

/-- Whatever deltas the inequality solver returns (cl1 is an oracle): if before
the update every pure phase has `0 ≤ moles` and every dissolve_only phase has `moles ≤ initial`, the same holds after
`reset()` — a phase never loses more than it has, a dissolve_only phase never exceeds its initial amount (exact arithmetic) -/
theorem restrictions_respected (f : TransFns Rat) (e : Env Rat) (us : List (PP Rat × Rat)) :
    letI := ratOps f
    (∀ p ∈ us, Bounds p.1) → ∀ u' ∈ resetPP e us, 0 ≤ u'.moles ∧ (u'.dissolveOnly = true → u'.moles ≤ u'.initial) := by
  intro hb u' hu'
  obtain ⟨hF, hg⟩ := resetScanAll_spec f us 1 hb le_rfl
  simp only [resetPP, rat_lit, List.mem_map] at hu'
  obtain ⟨q, hq, rfl⟩ := hu'
  exact resetApply_bounds f e q.1.1 q.2 _ (hb q.1 (List.of_mem_zip hq).1) hF (hg q hq)

/-- `reset()` changes neither the flags nor the initial amount of a phase, and keeps the order of the unknowns -/
theorem resetPP_frame (f : TransFns Rat) (e : Env Rat) (u : PP Rat) (d : Rat) :
    letI := ratOps f
    (resetApply e u d).dissolveOnly = u.dissolveOnly ∧ (resetApply e u d).initial = u.initial ∧
    (resetApply e u d).inert = u.inert ∧ (resetApply e u d).precipOnly = u.precipOnly ∧
    (resetApply e u d).addFormula = u.addFormula := by
  simp [resetApply]

/-- precipitate_only: the public amount `moles + inert_moles` never falls below the amount set aside at the start -/
theorem precipitate_only_respected (f : TransFns Rat) (u : PP Rat) :
    letI := ratOps f
    Bounds u → u.precipOnly = true → u.final.initial ≤ u.final.moles := by
  intro hb hp
  simp only [PP.final, hp, if_true]
  exact le_add_of_nonneg_left hb.1

/-- the special case of `ineq` (removing unstable phases) followed by `reset()` removes a present, undersaturated,
unrestricted phase completely: it ends at exactly 0 mol -/
theorem remove_unstable_exact (f : TransFns Rat) (e : Env Rat) (u : PP Rat) :
    letI := ratOps f
    0 ≤ e.ineqTol → 0 < u.f * LOG_10 → 0 < u.moles → u.addFormula = false → u.dissolveOnly = false →
      (resetApply e u (removeDelta u)).moles = 0 := by
  letI := ratOps f
  intro ht c1 c2 c3 c4
  -- `ineq` asks for all of it, and `equal(moles, moles, ineq_tol)` makes `reset()` store exactly `0`
  have hδ : removeDelta u = u.moles := by
    dsimp +instances only [removeDelta, rat_lit]
    rw [decide_eq_true c1, decide_eq_true c2, c3, c4]
    rfl
  have he : equalTol u.moles u.moles e.ineqTol = true := by
    rw [equalTol, absv_eq_abs, sub_self, abs_zero]
    exact decide_eq_true ht
  rw [hδ]
  dsimp +instances only [resetApply, rat_lit]
  rw [he, c4]
  rfl

/-! ## `ineq()`: the rows it writes for a pure phase already keep the bounds -/

/-- the inequality rows and the sign restriction that `ineq()` writes for a pure phase:
ANY vector `x` that satisfies them (and is 0 on a column that `ineq()` zeroed, i.e. a variable that occurs in no row)
gives a new amount `moles − x_i` that is not negative and, for dissolve_only, not above the initial amount.  With an exact
LP solver the scaling in `reset()` therefore never acts; `reset()` is the safety net for the inexact one. -/
theorem ineq_rows_keep_restrictions (f : TransFns Rat) (e : IEnv Rat) (i : Nat) (u : IUnk Rat) (z : List Bool) (x : List Rat) :
    letI := ratOps f
    u.type = 18 → z.getD i false = zeroCol e i u →
    0 ≤ u.moles → (u.dissolveOnly = true → u.moles ≤ u.initial) →
    (∀ r ∈ ppIneqRows i u, r.lhs z x ≤ r.rhs) → (ppSign u < 0 → getL x i ≤ 0) → (zeroCol e i u = true → getL x i = 0) →
      0 ≤ u.moles - getL x i ∧ (u.dissolveOnly = true → u.moles - getL x i ≤ u.initial) := by
  letI := ratOps f
  intro ht hz hm hd hrows hsign hzero
  cases hzc : zeroCol e i u with
  | true => rw [hzero hzc, sub_zero]; exact ⟨hm, hd⟩
  | false =>
    obtain ⟨⟨hidle, hin⟩, hblk⟩ : (ppIdle u = false ∧ u.phaseIn = true) ∧ ppBlocked u = false := by
      simpa only [zeroCol, ht, Bool.or_eq_false_iff, Bool.not_eq_false'] using hzc
    have hlhs (c r : Rat) : (IRow.unit i i c r).lhs z x = c * getL x i := by
      rw [IRow.lhs, hz, hzc]; rfl
    rw [ppIneqRows_live f i u hin hidle hblk] at hrows
    constructor
    · by_cases hpos : u.moles ≤ 0
      · have hs : ppSign u < 0 := by
          dsimp +instances only [ppSign, rat_lit]
          rw [ht, hin, hidle, decide_eq_true hpos]
          exact neg_one_lt_zero
        exact sub_nonneg.2 ((hsign hs).trans hm)
      · have := hrows (.unit i i 1 u.moles) (by rw [if_neg hpos]; exact List.mem_append_left _ (List.mem_singleton_self _))
        rw [hlhs, one_mul] at this
        exact sub_nonneg.2 this
    · intro hdis
      have := hrows (.unit i i (-1) (u.initial - u.moles))
        (by rw [if_pos hdis]; exact List.mem_append_right _ (List.mem_singleton_self _))
      rw [hlhs, neg_one_mul] at this
      exact sub_le_of_neg_le_sub this

/-- the pure-phase inequality rows are rows of the system handed to `cl1` -/
theorem ppIneqRows_mem (f : TransFns Rat) (e : IEnv Rat) (us : List (IUnk Rat)) (jac : List (List Rat)) :
    letI := ratOps f
    ∀ p ∈ enum 0 (us.zip jac), p.2.1.type = 18 → ∀ r ∈ ppIneqRows p.1 p.2.1, r ∈ ineqRows e us jac := by
  intro p hp ht r hr
  simp only [ineqRows, List.mem_append, List.mem_flatMap]
  left; right
  exact ⟨p, hp, by simp [ht, hr]⟩

/-- a delta that respects the rows is left alone by the scan of `reset()`: no clamp, no scaling (`factor` unchanged) -/
theorem feasible_no_scaling (f : TransFns Rat) (u : PP Rat) (d factor : Rat) :
    letI := ratOps f
    0 ≤ u.moles → -100000000 ≤ d → d ≤ 100000000 → (0 < u.moles → d ≤ u.moles) → (u.moles ≤ 0 → d ≤ 0) →
    (u.dissolveOnly = true → -d ≤ u.initial - u.moles) →
      resetScan u d factor = (d, factor) := by
  intro _ h1 h2 h3 h4 h5
  dsimp +instances only [resetScan, clampDelta, scanDissolve, scanRemove, rat_lit]
  simp only [Bool.and_eq_true, decide_eq_true_eq]
  have hD : ¬((u.dissolveOnly = true ∧ d < 0) ∧ u.initial - u.moles < -d) := fun h => (h5 h.1.1).not_gt h.2
  rw [if_neg (not_lt.2 h1), if_neg (not_lt.2 h2), if_neg hD, if_neg fun h => (h3 h.1).not_gt h.2,
    if_neg fun h => (h4 h.2).not_gt h.1]

/-! ## solid solutions -/

/-- `calc_ss_fractions` / `ss_ideal`: for component amounts that are all positive (the code keeps
them `≥ MIN_TOTAL_SS > 0`) every mole fraction is positive and the fractions sum to exactly one -/
theorem ssIdeal_simplex (f : TransFns Rat) (ns : List Rat) :
    letI := ratOps f
    ns ≠ [] → (∀ n ∈ ns, 0 < n) → (∀ x ∈ ssIdeal ns, 0 < x) ∧ sumL (ssIdeal ns) = 1 := by
  letI := ratOps f
  intro hne hp
  have hpos : 0 < ssTotal ns := (ssTotal_eq f ns).trans_gt (sumL_pos f ns hne hp)
  refine ⟨fun x hx => ?_, ?_⟩
  · obtain ⟨n, hn, rfl⟩ := List.mem_map.1 hx
    exact div_pos (hp n hn) hpos
  · rw [ssIdeal, sumL_map_div, ← ssTotal_eq, div_self hpos.ne']

/-- ideal component: `log10 λ = 0`, so a passing SS_MOLES row has `|SI − log10 x| ≤ ε`: the activity `10^SI` of the
component equals its mole fraction (`ε·ln 10 ≥ tol`).  `lfx` = `log10_fraction_x`, `si = IAP − lk` -/
theorem ss_ideal_activity (f : TransFns Rat) (step : State Rat → State Rat) (itmax n : Nat) (s s' : State Rat)
    (lk iap lfx moles ε : Rat) :
    letI := ratOps f
    runModel step itmax n s = some s' → Row.ss true (lk + lfx + 0 - iap) moles ∈ s'.rows →
      0 < (LOG_10 : Rat) → s'.env.tol ≤ ε * LOG_10 → -ε ≤ (iap - lk) - lfx ∧ (iap - lk) - lfx ≤ ε := by
  letI := ratOps f
  intro h hr hL hε
  have g := (gate_rows step itmax n s s' h _ hr).1
  rw [Row.fails, Bool.true_and, absGt_eq_false] at g
  rw [show iap - lk - lfx = -(lk + lfx + 0 - iap) by ring]
  exact ⟨neg_le_neg (le_of_mul_le hL hε g.2), neg_le_of_le_mul hL hε g.1⟩

/-- `ss_binary`: the two mole fractions it stores sum to one, inside and outside a miscibility gap -/
theorem ssBinary_fractions (f : TransFns Rat) (a0 a1 xb1 xb2 nc nb : Rat) (misc : Bool) :
    letI := ratOps f
    nc + nb ≠ 0 → (ssBinary a0 a1 misc xb1 xb2 nc nb (nc + nb)).xc + (ssBinary a0 a1 misc xb1 xb2 nc nb (nc + nb)).xb = 1 := by
  intro hn
  dsimp +instances only [ssBinary, rat_lit]
  split_ifs
  · exact sub_add_cancel 1 xb1
  · exact (add_div nc nb _).symm.trans (div_self hn)

/-- the `log10 λ` that `ss_binary` stores are the Guggenheim expressions divided by `LOG_10` -/
theorem ssBinary_lambdas (f : TransFns Rat) (a0 a1 xb1 xb2 nc nb nt : Rat) :
    letI := ratOps f
    (ssBinary a0 a1 false xb1 xb2 nc nb nt).l10c = lnLambdaC a0 a1 (nb / nt) / LOG_10 ∧
    (ssBinary a0 a1 false xb1 xb2 nc nb nt).l10b = lnLambdaB a0 a1 (nb / nt) (nc / nt) / LOG_10 :=
  ⟨rfl, rfl⟩

/-- the coded activity coefficients are those of the two-parameter Guggenheim (Redlich–Kister) excess free energy:
`x_c·ln λ_c + x_b·ln λ_b = x_b·x_c·(a0 + a1·(x_b − x_c))` -/
theorem guggenheim_excess (f : TransFns Rat) (a0 a1 xb xc : Rat) :
    letI := ratOps f
    xc + xb = 1 → xc * lnLambdaC a0 a1 xb + xb * lnLambdaB a0 a1 xb xc = xb * xc * (a0 + a1 * (xb - xc)) := by
  intro h
  obtain rfl : xc = 1 - xb := eq_sub_of_add_eq h
  simp only [lnLambdaC, lnLambdaB, rat_lit]
  ring

/-- Gibbs–Duhem for the coded pair: with `dC`, `dB` the polynomial derivatives of `ln λ_c`, `ln λ_b` with respect to
`x_b` (first two identities: they are the linear coefficients of the increments), `x_c·dC + x_b·dB = 0` -/
theorem guggenheim_gibbs_duhem (f : TransFns Rat) (a0 a1 x h : Rat) :
    letI := ratOps f
    let dC := 2 * x * (a0 - a1 * (3 - 4 * x)) + 4 * a1 * x ^ 2
    let dB := -2 * (1 - x) * (a0 + a1 * (4 * x - 1)) + 4 * a1 * (1 - x) ^ 2
    lnLambdaC a0 a1 (x + h) - lnLambdaC a0 a1 x = h * dC + h ^ 2 * (a0 - 3 * a1 + 12 * a1 * x + 4 * a1 * h) ∧
    lnLambdaB a0 a1 (x + h) (1 - (x + h)) - lnLambdaB a0 a1 x (1 - x) =
      h * dB + h ^ 2 * (a0 - 9 * a1 + 12 * a1 * x + 4 * a1 * h) ∧
    (1 - x) * dC + x * dB = 0 := by
  simp only [lnLambdaC, lnLambdaB, rat_lit]
  refine ⟨by ring, by ring, by ring⟩

/-- `ss_calc_a0_a1`: the dimensional forms are the dimensionless parameters times `R·T`; the Margules form gives
`ln λ_c = x_b²·(α2 + α3·x_b)` -/
theorem guggParams_forms (f : TransFns Rat) (p0 p1 rt xb : Rat) :
    letI := ratOps f
    rt ≠ 0 →
    (∀ a, guggParams 7 p0 p1 rt = some a → a.1 * rt = p0 ∧ a.2 * rt = p1) ∧
    (∀ a, guggParams 8 p0 p1 rt = some a → (a.1 + a.2) * rt = p0 ∧ (a.1 - a.2) * rt = p1) ∧
    (∀ a, guggParams 9 p0 p1 rt = some a → lnLambdaC a.1 a.2 xb = xb * xb * (p0 + p1 * xb)) ∧
    guggParams 0 p0 p1 rt = some (p0, p1) := by
  intro hrt
  refine ⟨?_, ?_, ?_, rfl⟩
  · rintro _ ⟨⟩
    exact ⟨div_mul_cancel₀ p0 hrt, div_mul_cancel₀ p1 hrt⟩
  · rintro _ ⟨⟩
    simp only [rat_lit]
    constructor
    · rw [← add_div, div_mul_cancel₀ _ hrt]
      ring
    · rw [← sub_div, div_mul_cancel₀ _ hrt]
      ring
  · rintro _ ⟨⟩
    simp only [lnLambdaC, rat_lit]
    ring

/-! ## exchange and surface rows -/

/-- completed without error ⇒ the sum over the exchange species equals the defined capacity
within `convergence_tolerance` relative (capacity above `MIN_RELATED_SURFACE`), absolute below -/
theorem exchange_capacity (f : TransFns Rat) (step : State Rat → State Rat) (itmax n : Nat) (s s' : State Rat) (m fs : Rat) :
    letI := ratOps f
    runModel step itmax n s = some s' → Row.exch m fs ∈ s'.rows →
      (s'.env.minRel < m → -(s'.env.tol * m) ≤ m - fs ∧ m - fs ≤ s'.env.tol * m) ∧
      (m ≤ s'.env.minRel → -(s'.env.tol) ≤ m - fs ∧ m - fs ≤ s'.env.tol) := by
  letI := ratOps f
  intro h hr
  have g := (gate_rows step itmax n s s' h _ hr).1
  simp only [Row.fails] at g
  constructor
  · intro hm
    rwa [if_neg hm.not_ge, absGt_eq_false] at g
  · intro hm
    rwa [if_pos hm, absGt_eq_false] at g

/-- the same for a SURFACE row, with the code's exemption for residuals below `ineq_tol` (1e-15 mol)
that are also below 1 % of the sites -/
theorem surface_sites (f : TransFns Rat) (step : State Rat → State Rat) (itmax n : Nat) (s s' : State Rat) (m fs : Rat) :
    letI := ratOps f
    runModel step itmax n s = some s' → Row.surf m fs ∈ s'.rows → s'.env.minRel < m →
      (-(s'.env.tol * m) ≤ m - fs ∧ m - fs ≤ s'.env.tol * m) ∨
      (-(s'.env.ineqTol) < m - fs ∧ m - fs < s'.env.ineqTol ∧ -(m / 100) < m - fs ∧ m - fs < m / 100) := by
  letI := ratOps f
  intro h hr hm
  have g := (gate_rows step itmax n s s' h _ hr).1
  dsimp +instances only [Row.fails, rat_lit] at g
  rw [if_neg hm.not_ge] at g
  split_ifs at g with c
  · rw [Bool.and_eq_true, absLt_eq_true, absLt_eq_true, one_div_mul_eq_div] at c
    exact .inr ⟨c.1.1, c.1.2, c.2⟩
  · exact .inl ((absGt_eq_false f _ _).1 g)

/-! ## non-vacuity: concrete instances -/

def toyFns : TransFns Rat :=
  { log10 := id, exp10 := id, ln := fun _ => 23 / 10, exp := id, sqrt := id, sinh := id, cos := id, acos := id, cbrt := id, floor := id }

def toyEnv : Env Rat := { tol := 1 / 100000000, ineqTol := 1 / 1000000000000000, minRel := 1 / 100000000000000000000000 }

/-- phase A: present (1 mmol) but undersaturated by one log unit; phase B: absent and supersaturated by half a unit;
phase C: dissolve_only at its initial amount and supersaturated (allowed); an exchanger with exact capacity -/
def toyStart : State Rat :=
  letI := ratOps toyFns
  { env := toyEnv, iterations := 0, removeUnstable := false, other := true, otherErr := false,
    rows := [Row.pp { moles := 1 / 1000, f := 1, dissolveOnly := false, addFormula := false, initial := 1 / 1000, inert := 0 },
             Row.pp { moles := 0, f := -1 / 2, dissolveOnly := false, addFormula := false, initial := 0, inert := 0 },
             Row.pp { moles := 1 / 50, f := -3, dissolveOnly := true, addFormula := false, initial := 1 / 50, inert := 0 },
             Row.exch (1 / 10) (1 / 10)] }

/-- a loop body: in the "remove unstable phases" pass it applies `ineq`'s special case and `reset()`;
otherwise it precipitates 10 mmol of every supersaturated unrestricted phase, which brings it to equilibrium -/
def toyStep (s : State Rat) : State Rat :=
  letI := ratOps toyFns
  { s with rows := s.rows.map fun r => match r with
      | Row.pp u =>
          if s.removeUnstable then Row.pp (resetApply s.env u (removeDelta u))
          else if u.f < 0 ∧ u.dissolveOnly = false then Row.pp { u with moles := u.moles + 1 / 100, f := 0 } else Row.pp u
      | r => r }

def molesOf : Row Rat → Rat
  | Row.pp u => u.moles
  | Row.ss _ _ m => m
  | Row.exch m _ => m
  | Row.surf m _ => m

-- the start is not accepted (iteration 0), too little fuel or too few iterations end without a result, …
example : letI := ratOps toyFns; converged toyStart = false := by decide +kernel
example : letI := ratOps toyFns; (runModel toyStep 100 3 toyStart).isSome = false := by decide +kernel
example : letI := ratOps toyFns; (runModel toyStep 1 10 toyStart).isSome = false := by decide +kernel
-- … with enough of both the call completes after the re-entry: A was removed completely, B precipitated, C untouched
example : letI := ratOps toyFns;
    (runModel toyStep 100 10 toyStart).map (fun s => (s.rows.map molesOf, s.iterations, s.removeUnstable)) =
      some ([0, 1 / 100, 1 / 50, 1 / 10], 2, false) := by decide +kernel
-- every pure phase of the result is a ValidPhase at 1e-6 (A absent & undersaturated, B present at SI = target,
-- C dissolve_only at its initial amount and supersaturated)
example : letI := ratOps toyFns;
    ((runModel toyStep 100 10 toyStart).map fun s => s.rows.all fun r => match r with
      | Row.pp u => validPhaseB (1 / 1000000) u.final
      | _ => true) = some true := by decide +kernel
-- the predicate is not trivially true: present & undersaturated, absent & supersaturated, dissolve_only above its
-- initial amount and precipitate_only below it are all rejected
example : letI := ratOps toyFns; validPhaseB (1 / 1000000 : Rat) { moles := 1 / 1000, d := -1, initial := 0, dissolveOnly := false, precipOnly := false } = false := by decide +kernel
example : letI := ratOps toyFns; validPhaseB (1 / 1000000 : Rat) { moles := 0, d := 1 / 2, initial := 0, dissolveOnly := false, precipOnly := false } = false := by decide +kernel
example : letI := ratOps toyFns; validPhaseB (1 / 1000000 : Rat) { moles := 2, d := 0, initial := 1, dissolveOnly := true, precipOnly := false } = false := by decide +kernel
example : letI := ratOps toyFns; validPhaseB (1 / 1000000 : Rat) { moles := 1 / 2, d := 0, initial := 1, dissolveOnly := false, precipOnly := true } = false := by decide +kernel
-- the gate: a supersaturated absent phase is an ERROR of check_residuals, a present undersaturated one asks for another pass
example : letI := ratOps toyFns;
    (Row.pp { moles := 0, f := -1 / 2, dissolveOnly := false, addFormula := false, initial := 0, inert := 0 } : Row Rat).check toyEnv = (true, false) := by decide +kernel
example : letI := ratOps toyFns;
    (Row.pp { moles := 1, f := 1 / 1000000, dissolveOnly := false, addFormula := false, initial := 0, inert := 0 } : Row Rat).check toyEnv = (false, true) := by decide +kernel
-- 100·tol/ln10 = 4.3e-7 < 1e-6: a present phase 4e-7 log units below its target passes both tests (hypothesis of the theorem)
example : letI := ratOps toyFns;
    (Row.pp { moles := 1, f := 4 / 10000000, dissolveOnly := false, addFormula := false, initial := 0, inert := 0 } : Row Rat).check toyEnv = (false, false) := by decide +kernel
example : (toyEnv.tol * 100 ≤ (1 / 1000000 : Rat) * toyFns.ln 10) := by decide +kernel
-- reset(): 3 mmol present, cl1 asks to dissolve 5 mmol of it and 1 mmol of a second phase: the common factor 5/3 scales
-- both, the first ends at exactly 0, the second keeps 2 − 0.6 mmol; a dissolve_only phase 1 mmol below its initial amount
-- that is asked to precipitate 4 mmol gets factor 4 and ends exactly at its initial amount
example : letI := ratOps toyFns;
    (resetPP toyEnv [({ moles := 3 / 1000, f := 1, dissolveOnly := false, addFormula := false, initial := 0, inert := 0 }, 5 / 1000),
                     ({ moles := 2 / 1000, f := 1, dissolveOnly := false, addFormula := false, initial := 0, inert := 0 }, 1 / 1000)]).map (·.moles)
      = [0, 2 / 1000 - 3 / 5000] := by decide +kernel
example : letI := ratOps toyFns;
    (resetPP toyEnv [({ moles := 4 / 1000, f := -1, dissolveOnly := true, addFormula := false, initial := 5 / 1000, inert := 0 }, -4 / 1000)]).map (·.moles)
      = [5 / 1000] := by decide +kernel
-- fractions of an ideal three-component solid solution
example : letI := ratOps toyFns; ssIdeal [(1 / 10 : Rat), 3 / 10, 1 / 10] = [1 / 5, 3 / 5, 1 / 5] := by decide +kernel
example : letI := ratOps toyFns; sumL (ssIdeal [(1 / 10 : Rat), 3 / 10, 1 / 10]) = 1 := by decide +kernel
-- binary: outside the gap the fractions are n/ntot, inside (0.1 < xb < 0.8) the composition is pinned to xb1
example : letI := ratOps toyFns;
    ((ssBinary 3 0 true (1 / 10) (8 / 10) (1 / 2) (1 / 2) 1).xb, (ssBinary 3 0 true (1 / 10) (8 / 10) (19 / 20) (1 / 20) 1).xb) = ((1 / 10 : Rat), (1 / 20 : Rat)) := by
  decide +kernel
example : letI := ratOps toyFns; guggParams 7 (5 : Rat) 1 (5 / 2) = some (2, 2 / 5) := by decide +kernel

-- ineq(): Calcite present (2 mmol, slightly undersaturated), Gypsum absent and undersaturated (idle: no row, column zeroed),
-- Dolomite dissolve_only 1 mmol below its 5 mmol, an absent supersaturated phase (sign restriction), one mass balance:
-- rows in the order optimise / equality / inequality, `back_eq` = sources
def toyIneqEnv : IEnv Rat :=
  { iterations := 3, aqueousOnly := 0, equiDelay := 0, ppScale := 1, inKode := 1, minRel := 1 / 100000000000000000000000,
    minTotalSS := 1 / 1000000000000000000000000000, massWaterSwitch := false, oxygenIdx := 99, hydrogenIdx := 99, exchRelated := false }
def toyIneqUs : List (IUnk Rat) :=
  [{ type := 10, moles := 1 / 100, f := 1 / 100, initial := 0, grams := 0, iteration := 3 },
   { type := 18, moles := 2 / 1000, f := 1 / 1000, initial := 2 / 1000, grams := 0, iteration := 3 },
   { type := 18, moles := 0, f := 1, initial := 0, grams := 0, iteration := 3 },
   { type := 18, moles := 4 / 1000, f := 1 / 100, initial := 5 / 1000, grams := 0, iteration := 3, dissolveOnly := true },
   { type := 18, moles := 0, f := -1 / 2, initial := 0, grams := 0, iteration := 3 }]
def toyJac : List (List Rat) :=
  [[1, -1, 0, -1, -1, 0], [2, 0, 0, 0, 0, 1 / 1000], [1, 0, 0, 0, 0, 1], [3, 0, 0, 0, 0, 1 / 100], [1, 0, 0, 0, 0, -1 / 2]]
example : letI := ratOps toyFns; (ineqRows toyIneqEnv toyIneqUs toyJac).map (fun r => (r.kind, r.src)) =
    [(0, 1), (0, 3), (0, 4), (1, 0), (2, 1), (2, 3), (2, 3)] := by decide +kernel
example : letI := ratOps toyFns; ineqZero toyIneqEnv toyIneqUs = [false, false, true, false, false] := by decide +kernel
example : letI := ratOps toyFns; ineqSigns toyIneqUs = [0, 0, 0, 0, -1] := by decide +kernel
-- a vector that dissolves 1 mmol of Calcite, precipitates 1 mmol of Dolomite back and 3 mmol of the absent phase is
-- feasible; one that dissolves 3 mmol of Calcite or precipitates 2 mmol of Dolomite is not
example : letI := ratOps toyFns;
    ((ineqRows toyIneqEnv toyIneqUs toyJac).filter (fun r => r.kind == 2)).all
      (fun r => decide (r.lhs (ineqZero toyIneqEnv toyIneqUs) [0, 1 / 1000, 0, -1 / 1000, -3 / 1000] ≤ r.rhs)) = true := by decide +kernel
-- Elaboration retries the postponed `Decidable` instance of the next statement, each time unfolding `≤` on `Rat` down to
-- `Rat.blt` before it fails (15 times the work of the statement); sealed, the retries fail at once.
seal Rat.blt
example : letI := ratOps toyFns;
    ((ineqRows toyIneqEnv toyIneqUs toyJac).filter (fun r => r.kind == 2)).map
      (fun r => decide (r.lhs (ineqZero toyIneqEnv toyIneqUs) [0, 3 / 1000, 0, -2 / 1000, 0] ≤ r.rhs)) = [false, true, false] := by decide +kernel

end PhreeqcVerif.Assemblage
