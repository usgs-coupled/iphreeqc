import PhreeqcVerif.Lemmas.Units
/-!
# C15 — results are invariant under physically irrelevant changes of the input

Theorems about the executable models `Model/Units.lean` (`convert_units`, `check_units`, the readers of SOLUTION and
SOLUTION_SPREAD) and `Model/MixAlg.lean` (`cxxMix::Add`, `add_solution`, `add_mix`; its `add_extensive` and
`cxxSolution::add/multiply` are tied to the code only), for all inputs.
The tie to the C++ is `tools/props/c15.py` (model vs. real `convert_units`/`add_mix` at 1e-12 relative, and
metamorphic pairs on the real engine).
-/
namespace PhreeqcVerif.Units
open Std Txt

/-! ## unit changes -/

/-- a component together with the amount (mol per kg water / kg solution / litre) it stands for -/
abbrev Item := Comp × Rat

/-- write the amount of an item in the unit chosen by `ua` -/
def express (elt : String → Option Rat) (ua : Comp → Unit) (x : Item) : Comp :=
  { x.1 with unit := ua x.1, conc := amount (ua x.1) (resolveGfw elt x.1).1 x.2 }

/-- an item whose conversion is meaningful: positive amount and positive formula weight, unless the code ignores
the concentration anyway (minor isotope, pH / pe rows) -/
def Item.ok (elt : String → Option Rat) (x : Item) : Prop :=
  x.1.minor = true ∨ (x.1.name == "H(1)" || x.1.name == "E") = true ∨ (0 < (resolveGfw elt x.1).1 ∧ 0 < x.2)

/-- a unit choice that is admissible for a solution whose units have denominator `d`: same denominator
(`check_units` rejects anything else) and not the `eq/kgs` spelling, whose solute mass the code drops -/
def Admissible (d : Den) (ua : Comp → Unit) (c : Comp) : Prop :=
  (ua c).den = d ∧ ((ua c).kind = .eq → d ≠ .perKgs)

instance (d : Den) (ua : Comp → Unit) (c : Comp) : Decidable (Admissible d ua c) := by
  unfold Admissible; infer_instance

/-- the same amounts written in two choices of units that agree, item by item, on whether the concentration counts as
solute mass convert alike (the denominators need not even be the solution's) -/
theorem convert_express_congr (p : Params) (t0 : Totals) (items : List Item) (ua ub : Comp → Unit)
    (hok : ∀ x ∈ items, x.ok p.elt) (h : ∀ x ∈ items, (ua x.1).solute = (ub x.1).solute) :
    convertUnits p t0 (items.map (express p.elt ua)) = convertUnits p t0 (items.map (express p.elt ub)) := by
  apply convertUnits_congr
  rw [loop_eq, loop_eq, List.map_map, List.map_map]
  congr 1
  exact List.map_congr_left fun x hx => effect_amount_congr _ _ _ x.1 _ _ x.2 (hok x hx) (h x hx)

/-- **unit_equivalence.** The same amounts written in any admissible units — `Mol`, `mMol`, `uMol`, `g`, `mg`, `ug`
(and `eq`, `meq`, `ueq` for alkalinity) per kg water, chosen independently per element, with the weight coming from
the master species, an `as` formula (including the alkalinity-as-CaCO3 halving) or a `-gfw` override — give the same
totals map, the same error count and the same water mass. For per-litre / per-kg-solution descriptions the same holds
as long as equivalents stay equivalents (their contribution to the solute mass is coded differently). -/
theorem unit_equivalence (p : Params) (t0 : Totals) (items : List Item) (ua ub : Comp → Unit)
    (hok : ∀ x ∈ items, x.ok p.elt)
    (ha : ∀ x ∈ items, Admissible p.solUnit.den ua x.1) (hb : ∀ x ∈ items, Admissible p.solUnit.den ub x.1)
    (hkind : p.solUnit.den ≠ .perKgw → ∀ x ∈ items, ((ua x.1).kind = .eq ↔ (ub x.1).kind = .eq)) :
    convertUnits p t0 (items.map (express p.elt ua)) = convertUnits p t0 (items.map (express p.elt ub)) := by
  refine convert_express_congr p t0 items ua ub hok fun x hx => ?_
  -- admissible units have the solution's denominator and are not `eq/kgs`: that denominator decides what counts as solute
  obtain ⟨ha1, ha2⟩ := ha x hx
  obtain ⟨hb1, hb2⟩ := hb x hx
  rw [Unit.solute_eq _ (ha1 ▸ ha2), Unit.solute_eq _ (hb1 ▸ hb2), ha1, hb1]

/-- per-kg-water corollary in the words of the property: every one of the six spellings converts to the amount itself
(times the water mass) -/
theorem unit_equivalence_kgw (p : Params) (hp : p.solUnit.den = .perKgw) (c : Comp) (pre : Pre) (kind : Kind) (n : Rat)
    (hm : c.minor = false) (hh : (c.name == "H(1)" || c.name == "E") = false)
    (hg : 0 < (resolveGfw p.elt c).1) (hn : 0 < n) :
    (convertUnits p ∅ [express p.elt (fun _ => ⟨pre, kind, .perKgw⟩) (c, n)]).totals[c.name]? = some (n * p.water) := by
  unfold convertUnits loop express
  simp only [List.foldl_cons, List.foldl_nil, hp]
  rw [effect_amount .perKgw p.density p.elt c ⟨pre, kind, .perKgw⟩ n hm hh hg hn]
  simp [St.apply]

/-- the alkalinity rule: `Alkalinity … as CaCO3` uses half the formula weight of CaCO3 (g per equivalent) -/
theorem alkalinity_as_CaCO3 (elt : String → Option Rat) (c : Comp) (g : Rat)
    (hname : c.name = "Alkalinity") (has : c.asName = "CaCO3") (hgfw : c.gfw ≤ 0)
    (hc : computeGfw elt c.asElts = some g) : (resolveGfw elt c).1 = g / 2 := by
  unfold resolveGfw; simp [hname, has, hgfw, hc]

/-- a `-gfw` override wins over `as` and over the master species -/
theorem gfw_override (elt : String → Option Rat) (c : Comp) (h : 0 < c.gfw) : (resolveGfw elt c).1 = c.gfw := by
  unfold resolveGfw
  rw [if_neg (Rat.not_le.mpr h)]

/-! ## water mass -/

/-- **water_scaling (initial solutions).** Multiplying the water mass by `k` multiplies every total by `k`; errors and the
/kgs→/kgw divisor are unchanged. -/
theorem water_scaling (p : Params) (t0 : Totals) (comps : List Comp) (k : Rat) :
    (convertUnits { p with water := p.water * k } t0 comps).totals = (convertUnits p t0 comps).totals.map (fun _ v => v * k) ∧
    (convertUnits { p with water := p.water * k } t0 comps).err = (convertUnits p t0 comps).err ∧
    (convertUnits { p with water := p.water * k } t0 comps).massWater = (convertUnits p t0 comps).massWater := by
  refine ⟨?_, rfl, rfl⟩
  unfold convertUnits loop
  simp only [ExtTreeMap.map_map, Rat.mul_assoc]

/-- … and molalities (total / water) do not change -/
theorem water_scaling_molality (p : Params) (t0 : Totals) (comps : List Comp) (k : Rat) (hk : k ≠ 0) (a : String) :
    molality (convertUnits { p with water := p.water * k } t0 comps) (p.water * k) a =
      molality (convertUnits p t0 comps) p.water a := by
  unfold molality
  rw [(water_scaling p t0 comps k).1, get_map]
  cases (convertUnits p t0 comps).totals[a]? with
  | none => rfl
  | some v => exact congrArg some (Rat.mul_div_mul_right v p.water k hk)

/-! ## order of constituents, repeated definitions -/

/-- **map_order_irrelevant (storage).** The component lines of a SOLUTION block may come in any order: the keyed map the
code builds is the same (hence its iteration order, hence everything downstream). -/
theorem map_order_irrelevant (l₁ l₂ : List Comp) (hp : l₁.Perm l₂)
    (hinj : ∀ x ∈ l₁, ∀ y ∈ l₁, x.name = y.name → x = y) : readComps l₁ = readComps l₂ := by
  unfold readComps
  apply hp.foldl_eq'
  intro x hx y hy m
  by_cases h : x.name = y.name
  · rw [hinj x hx y hy h]
  · exact Map.insert_comm m _ _ x y h

/-- **map_order_irrelevant (conversion).** Even if the components were visited in another order (renamed or renumbered
entities sort differently), `convert_units` gives the same result. -/
theorem convert_order_irrelevant (p : Params) (t0 : Totals) (l₁ l₂ : List Comp) (hp : l₁.Perm l₂)
    (hinj : ∀ x ∈ l₁, ∀ y ∈ l₁, x.name = y.name → x = y) : convertUnits p t0 l₁ = convertUnits p t0 l₂ := by
  apply convertUnits_congr
  unfold loop
  apply hp.foldl_eq'
  intro x hx y hy st
  by_cases h : x.name = y.name
  · rw [hinj x hx y hy h]
  · exact apply_comm st _ _ (by simpa using h)

/-- **redefinition_idempotent (storage).** Repeating an identical component line, or an identical keyed definition,
changes nothing. -/
theorem redefinition_idempotent (lines : List Comp) (c : Comp) :
    readComps (lines ++ [c, c]) = readComps (lines ++ [c]) := by
  unfold readComps
  simp only [List.foldl_append, List.foldl_cons, List.foldl_nil]
  exact Map.insert_insert _ _ c c

/-- the totals present before `convert_units` do not matter when they all belong to components of the solution: the
function recomputes from `input_conc` -/
theorem convert_ignores_prior (p : Params) (t0 : Totals) (comps : List Comp)
    (hminor : ∀ c ∈ comps, c.minor = false)
    (hkeys : ∀ k : String, t0[k]? ≠ none → ∃ c ∈ comps, c.name = k) :
    convertUnits p t0 comps = convertUnits p ∅ comps := by
  apply convertUnits_congr
  rw [loop_eq, loop_eq]
  refine foldl_apply_congr _ _ _ rfl rfl fun k hk => ?_
  -- a key of `t0` is the name of a component, whose effect touches it
  have : t0[k]? = none := Classical.byContradiction fun h => by
    obtain ⟨c, hc, hn⟩ := hkeys k h
    exact hk _ (List.mem_map_of_mem hc) (effect_touch _ _ _ c (hminor c hc)) (by simpa using hn)
  simp [this]

/-- **redefinition_idempotent (conversion).** Running `convert_units` again on its own output (what the density loop
and a repeated identical SOLUTION block amount to) reproduces the output. -/
theorem convert_idempotent (p : Params) (comps : List Comp) (hminor : ∀ c ∈ comps, c.minor = false) :
    convertUnits p (convertUnits p ∅ comps).totals comps = convertUnits p ∅ comps := by
  apply convert_ignores_prior p _ comps hminor
  intro k hk
  -- the loop started on the empty map leaves nothing under a name that is not a component's
  apply Classical.byContradiction
  intro hno
  apply hk
  have : (loop p ∅ comps).totals[k]? = none := by
    rw [loop_eq, get_foldl_apply]
    · rfl
    · intro e he
      obtain ⟨c, hc, rfl⟩ := List.mem_map.mp he
      exact fun hn => hno ⟨c, hc, by simpa using hn⟩
  unfold convertUnits
  simp only [get_map]
  split <;> simp [this]

/-! ## the text of the input: unit spellings, `check_units`, the string tests of `convert_units` -/
/-- every documented spelling of a unit is accepted by both copies of `check_units` and denotes the same unit -/
theorem documented_spellings_ok : ∀ p ∈ documentedSpellings, ∀ v : Bool,
    (checkUnits v p.1.toList false false []).bind Unit.ofChars = some p.2 := by decide +kernel

/-- the 27 canonical names are fixed points of the normalisation -/
theorem canonical_fixed : ∀ u ∈ Unit.all, ∀ v : Bool, normalise v u.str.toList = u.str.toList := by decide +kernel

/-- the `units[]` table is exactly the 27 structured units; decoding inverts printing -/
theorem unit_table_complete : (∀ s ∈ unitTable, (Unit.ofChars s.toList).isSome) ∧ (∀ u ∈ Unit.all, u.str ∈ unitTable) ∧
    (∀ u ∈ Unit.all, Unit.ofChars u.str.toList = some u) := by decide +kernel

/-- the `strstr` / first-character tests `convert_units` makes on the canonical names are the structural predicates of the model -/
theorem string_tests_agree : ∀ u ∈ Unit.all,
    sPreFactor u.str.toList = u.preFactor ∧ sGramPerSolution u.str.toList = u.gramPerSolution ∧
    sMolPerSolution u.str.toList = u.molPerSolution ∧ sIsGram u.str.toList = u.isGram ∧
    sPerL u.str.toList = (u.den == .perL) ∧ sPerSolution u.str.toList = (u.den == .perKgs || u.den == .perL) := by
  decide +kernel

/-- the default-units fix-up of the model is `check_units` with the compatibility check, on all 27 × 27 × 2 inputs -/
theorem fixup_is_check_units : ∀ own ∈ Unit.all, ∀ dflt ∈ Unit.all, ∀ alk : Bool,
    checkUnits false own.str.toList alk true dflt.str.toList = (fixupUnit dflt (some own) alk).map (·.str.toList) := by
  intro own hown dflt _ alk
  -- a canonical name passes the normalisation unchanged and is in the table
  have ht : (unitTable.any fun u => u.toList == own.str.toList) = true :=
    List.any_eq_true.mpr ⟨own.str, unit_table_complete.2.1 own hown, by simp⟩
  obtain ⟨oMol, -, -, -, -, oRep⟩ := check_tests_agree own
  -- the alkalinity rewrite of the name is the name of the rewritten unit
  have hr : (if (alk && own.kind == .mol) = true then replaceFirst "Mol".toList "eq".toList own.str.toList else own.str.toList) =
      (if alk && own.kind == .mol then { own with kind := .eq } else own).str.toList := by
    split
    · next h => exact oRep (eq_of_beq (Bool.and_eq_true_iff.mp h).2)
    · rfl
  simp only [checkUnits, fixupUnit, canonical_fixed own hown false, ht, oMol, hr]
  -- what is left are substring tests on two canonical names, which read off kind and denominator
  generalize (if alk && own.kind == .mol then { own with kind := .eq } else own) = u
  obtain ⟨-, uEq, uL, uS, uW, -⟩ := check_tests_agree u
  obtain ⟨-, -, dL, dS, dW, -⟩ := check_tests_agree dflt
  have hden : (dflt.den == .perL && u.den == .perL || dflt.den == .perKgs && u.den == .perKgs ||
      dflt.den == .perKgw && u.den == .perKgw) = (u.den == dflt.den) := by
    cases dflt.den <;> cases u.den <;> rfl
  simp only [uEq, uL, uS, uW, dL, dS, dW, hden, Bool.not_true, Bool.false_eq_true, if_false]
  split
  · rfl
  · split <;> rfl

/-- **SOLUTION_SPREAD rows versus SOLUTION blocks.** When every column string parses (and no heading starts with a
lower-case letter), the components read from a SPREAD row are the components read from the SOLUTION block whose lines are
`heading datum unit-cell`. -/
theorem spread_row_eq_block (cells : List (List Char × List Char × List Char))
    (hup : ∀ c ∈ cells, isLowerFirst ((tokens (spreadCell c.1 c.2.1 c.2.2)).headD []) = false)
    (hok : ∀ c ∈ cells, (readCompLine (spreadCell c.1 c.2.1 c.2.2)).isSome) :
    blockComps (cells.map fun c => spreadCell c.1 c.2.1 c.2.2) = some (rowComps cells) := by
  induction cells with
  | nil => rfl
  | cons c cs ih =>
    have h1 := hup c (by simp)
    have h2 := hok c (by simp)
    have ih' := ih (fun d hd => hup d (by simp [hd])) (fun d hd => hok d (by simp [hd]))
    unfold blockComps at ih' ⊢
    unfold rowComps
    obtain ⟨v, hv⟩ := Option.isSome_iff_exists.mp h2
    simp only [List.map_cons, List.mapM_cons, List.filterMap_cons, h1, hv, Bool.false_eq_true, if_false]
    rw [ih']
    rfl

example : readCompLine "  S(6)  20 mg/L as SO4".toList =
    some ⟨"S(6)".toList, 20, some "mg/l".toList, "SO4".toList, 0, []⟩ := by decide +kernel
example : readCompLine (spreadCell "Alkalinity".toList "50.5".toList "mg/kg water as CaCO3".toList) =
    some ⟨"Alkalinity".toList, 101/2, some "mg/kgw".toList, "CaCO3".toList, 0, []⟩ := by decide +kernel
example : readCompLine "C(+4) 2.5e-3 Mol/kgw gfw 61.0 pe".toList =
    some ⟨"C(4)".toList, 1/400, some "Mol/kgw".toList, [], 61, ["pe".toList]⟩ := by decide +kernel
example : readCompLine "Fe(2) Fe(3) 1 ug/l".toList = some ⟨"Fe(2) Fe(3)".toList, 1, some "ug/l".toList, [], 0, []⟩ := by decide +kernel
example : readCompLine "Na".toList = none ∧ readCompLine "Na x".toList = none ∧ readCompLine "na 1".toList = none := by decide +kernel
/-- the weight of `Ca0.5(CO3)0.5` from the element table, through the formula parser -/
example : gfwOfFormula (fun s => if s = "Ca" then some (4008/100) else if s = "C" then some (120111/10000) else
    if s = "O" then some 16 else none) "Ca0.5(CO3)0.5" = some (5004555/100000) := by decide +kernel

end PhreeqcVerif.Units

namespace PhreeqcVerif.MixAlg
open Std PhreeqcVerif.Units

/-! ## MIX blocks -/

/-- the data lines of a MIX block may come in any order -/
theorem read_mix_perm (l₁ l₂ : List (Int × Rat)) (hp : l₁.Perm l₂) : readMix l₁ = readMix l₂ := by
  unfold readMix
  apply hp.foldl_eq'
  intro x _ y _ m
  simp only [mixAdd_eq]
  exact Map.addAt_comm ..

/-- two lines for the same solution number are one line with the summed fraction (self-mix inside a MIX block) -/
theorem read_mix_self (l : List (Int × Rat)) (n : Int) (a b : Rat) :
    readMix (l ++ [(n, a), (n, b)]) = readMix (l ++ [(n, a + b)]) := by
  unfold readMix
  simp only [List.foldl_append, List.foldl_cons, List.foldl_nil, mixAdd_eq]
  exact Map.addAt_addAt ..

/-! ## add_mix -/

/-- **mix_perm.** `add_mix` gives the same accumulated state for every order of the mixed solutions (the code visits them
in the order of their numbers, so renumbering the solutions permutes the visits). -/
theorem mix_perm (primary : String → Option String) (store : Int → Option Sol) (l₁ l₂ : List (Int × Rat))
    (hp : l₁.Perm l₂) (a : Acc) : addMix primary store l₁ a = addMix primary store l₂ a := by
  rw [addMix_eq, addMix_eq, sums_perm store l₁ l₂ hp, hp.length_eq]
  exact hp.foldl_eq' (fun x _ y _ z => mixStep_comm ..) a

/-- **self_mix.** Mixing fractions `a` and `b` of two copies of the same solution (stored under any two numbers) equals
mixing the fraction `a + b` of it — inside any larger mix. -/
theorem self_mix (primary : String → Option String) (store : Int → Option Sol) (i j : Int) (s : Sol) (a b : Rat)
    (rest : List (Int × Rat)) (acc : Acc) (hi : store i = some s) (hj : store j = some s) (ha : 0 < a) (hb : 0 < b)
    (hprim : nErr primary s.totals.toList = 0) :
    addMix primary store ((i, a) :: (j, b) :: rest) acc = addMix primary store ((i, a + b) :: rest) acc := by
  have hab : (0 : Rat) < a + b := by grind
  -- the two descriptions have the same sums, up to one more positive entry on the left
  have hs : sums store ((i, a) :: (j, b) :: rest) = (sums store ((i, a + b) :: rest)).bump := by
    simp only [sums_eq, List.foldl_cons]
    rw [← List.foldl_hom Sums.bump (sumsStep_bump store)]
    congr 1
    simp only [sumsStep, Sums.bump, hi, hj, ha, hb, hab, if_true, Sums.mk.injEq]
    grind
  rw [addMix_eq, addMix_eq, hs]
  simp only [List.foldl_cons, List.length_cons]
  have hm : mixStep primary store (sums store ((i, a + b) :: rest)).bump (rest.length + 1 + 1) =
      mixStep primary store (sums store ((i, a + b) :: rest)) (rest.length + 1) := by
    funext acc nf; simp only [mixStep, intensiveWater_bump]
  rw [hm]
  congr 1
  -- two visits of `s` with fractions `a`, `b` against one with `a + b`
  simp only [mixStep, hi, hj, addSolution_eq, hprim, applyOps_entryOps_add, Rat.add_assoc, ← Rat.mul_add,
    intensiveWater_add _ _ _ _ _ ha hb, Nat.add_zero]

/-! ## water mass and extensive amounts scaled by a common factor -/

/-- **water_scaling (mixing).** If every mixed solution has its water mass and all extensive amounts multiplied by `k ≠ 0`
(fractions unchanged), `add_mix` yields the same intensive state (temperature, pH, pe, ionic strength, activity of water,
density, pressure weights) and every extensive result — element totals, total H, total O, charge balance, water —
multiplied by `k`. -/
theorem mix_water_scaling (primary : String → Option String) (store : Int → Option Sol) (comps : List (Int × Rat))
    (a : Acc) (k : Rat) (hk : k ≠ 0) :
    addMix primary (fun n => (store n).map (·.scale k)) comps (a.scale k) = (addMix primary store comps a).scale k := by
  have h := mix_scaling primary store comps a k 1 hk (by decide)
  simpa only [Rat.mul_one, List.map_id'] using h

/-- **fraction scaling.** Multiplying every mixing fraction by `κ > 0` gives `κ` times as much of the same mixture: equal
intensive state, every extensive result (totals, total H and O, charge balance, water) times `κ`. In particular a
solution mixed with itself in any amount is the same solution. -/
theorem mix_fraction_scaling (primary : String → Option String) (store : Int → Option Sol) (comps : List (Int × Rat))
    (a : Acc) (κ : Rat) (hκ : 0 < κ) :
    addMix primary store (comps.map fun nf => (nf.1, nf.2 * κ)) (a.scale κ) = (addMix primary store comps a).scale κ := by
  have h := mix_scaling primary store comps a 1 κ (by decide) hκ
  simpa only [Rat.one_mul, Sol.scale_one, Option.map_id'] using h

end PhreeqcVerif.MixAlg

/-! ## non-vacuity: concrete instances (evaluated by the kernel) -/
namespace PhreeqcVerif.Units
open Std

def eltEx : String → Option Rat := fun s =>
  if s = "Na" then some (229898/10000) else if s = "Ca" then some (4008/100) else if s = "C" then some (12011/1000)
  else if s = "O" then some (159994/10000) else none
def naEx : Comp := { name := "Na", conc := 0, unit := Unit.molPerKgw, masterGfw := some (229898/10000) }
def alkEx : Comp := { name := "Alkalinity", conc := 0, unit := Unit.molPerKgw, asName := "CaCO3"
                      asElts := [("Ca", 1), ("C", 1), ("O", 3)], masterGfw := some (5005/100) }
def caEx : Comp := { name := "Ca", conc := 0, unit := Unit.molPerKgw, gfw := 40, masterGfw := some (4008/100) }
def pEx : Params := { solUnit := ⟨.milli, .mol, .perKgw⟩, density := 1, water := 2, sum0 := 0, elt := eltEx }
def itemsEx : List Item := [(alkEx, 1/1000), (caEx, 1/4000), (naEx, 3/1000)]

/-- 3 mmol/kgw Na is written 68.9694 in mg/kgw; 1 meq/kgw alkalinity is 50.0446 mg/kgw as CaCO3; Ca with `-gfw 40` -/
example : (itemsEx.map (express eltEx fun _ => ⟨.milli, .gram, .perKgw⟩)).map (·.conc) = [500446/10000, 10, 689694/10000] := by
  decide +kernel
example : (itemsEx.map (express eltEx fun _ => ⟨.micro, .mol, .perKgw⟩)).map (·.conc) = [1000, 250, 3000] := by
  decide +kernel
/-- both descriptions convert to the same moles in 2 kg of water -/
example : (convertUnits pEx ∅ (itemsEx.map (express eltEx fun _ => ⟨.milli, .gram, .perKgw⟩))).totals.toList =
    [("Alkalinity", 2/1000), ("Ca", 1/2000), ("Na", 6/1000)] := by decide +kernel
example : (convertUnits pEx ∅ (itemsEx.map (express eltEx fun _ => ⟨.micro, .mol, .perKgw⟩))).totals.toList =
    [("Alkalinity", 2/1000), ("Ca", 1/2000), ("Na", 6/1000)] := by decide +kernel
/-- the hypotheses of `unit_equivalence` hold for this instance (per-element units chosen differently on both sides) -/
example : convertUnits pEx ∅ (itemsEx.map (express pEx.elt fun c => if c.name = "Na" then ⟨.milli, .gram, .perKgw⟩ else ⟨.micro, .mol, .perKgw⟩)) =
    convertUnits pEx ∅ (itemsEx.map (express pEx.elt fun c => if c.name = "Ca" then ⟨.one, .gram, .perKgw⟩ else ⟨.milli, .eq, .perKgw⟩)) := by
  apply unit_equivalence
  · intro x hx; simp only [itemsEx, List.mem_cons, List.not_mem_nil, or_false] at hx
    rcases hx with rfl | rfl | rfl <;> (right; right; decide +kernel)
  · decide +kernel
  · decide +kernel
  · intro h; exact absurd rfl h

/-- water scaling on the instance: 2 kg → 6 kg triples every total, molality 3 mmol/kgw stays -/
example : (convertUnits { pEx with water := 2 * 3 } ∅ (itemsEx.map (express eltEx fun _ => ⟨.milli, .gram, .perKgw⟩))).totals.toList =
    [("Alkalinity", 6/1000), ("Ca", 3/2000), ("Na", 18/1000)] := by decide +kernel
example : molality (convertUnits { pEx with water := 2 * 3 } ∅ (itemsEx.map (express eltEx fun _ => ⟨.milli, .gram, .perKgw⟩))) (2 * 3) "Na"
    = some (3/1000) := by decide +kernel

/-- the hypothesis "equivalents stay equivalents" of `unit_equivalence` cannot be dropped for per-kg-solution units:
the code adds `mg/kgs` (ppm as CaCO3) to the solute mass but not `meq/kgs`, so the two descriptions of the same
alkalinity give different water masses (a property of the code, outside the unit families C15 lists) -/
example : (effect .perKgs 1 eltEx (express eltEx (fun _ => ⟨.milli, .gram, .perKgs⟩) (alkEx, 1/1000))).dsum = 500446/10000000 ∧
    (effect .perKgs 1 eltEx (express eltEx (fun _ => ⟨.milli, .eq, .perKgs⟩) (alkEx, 1/1000))).dsum = 0 ∧
    (effect .perL 1 eltEx (express eltEx (fun _ => ⟨.milli, .eq, .perL⟩) (alkEx, 1/1000))).dsum = 500446/10000000 := by
  decide +kernel

/-- order of the lines: the stored map is the same -/
example : readComps [naEx, caEx, alkEx] = readComps [alkEx, naEx, caEx] := by
  apply map_order_irrelevant
  · exact (List.Perm.cons _ (List.Perm.swap _ _ _)).trans (List.Perm.swap _ _ _)
  · intro x hx y hy; simp only [List.mem_cons, List.not_mem_nil, or_false] at hx hy
    rcases hx with rfl | rfl | rfl <;> rcases hy with rfl | rfl | rfl <;> intro h <;>
      first | rfl | exact absurd h (by decide)

end PhreeqcVerif.Units

namespace PhreeqcVerif.MixAlg
open Std PhreeqcVerif.Units

def solA : Sol := { tc := 10, ph := 6, pe := 4, mu := 1/100, ah2o := 1, density := 1, patm := 1, totalH := 111, totalO := 55,
                    cb := 1/1000, water := 1, alk := 0, totals := (∅ : Totals).insert "Na" (1/100) |>.insert "S(6)" (1/200) }
def solB : Sol := { tc := 30, ph := 8, pe := 2, mu := 3/100, ah2o := 1, density := 1, patm := 1, totalH := 222, totalO := 111,
                    cb := 0, water := 2, alk := 0, totals := (∅ : Totals).insert "Ca" (1/50) |>.insert "S" (1/100) }
def storeEx : Int → Option Sol := fun n => if n = 1 then some solA else if n = 2 then some solB else if n = 7 then some solA else none
def primEx : String → Option String := fun s => if s = "S(6)" then some "S" else some s

/-- a concrete mix: 0.25 of solution 1 (1 kg water) + 0.75 of solution 2 (2 kg water); S(6) and S land on the primary S -/
example : (addMix primEx storeEx [(1, 1/4), (2, 3/4)] Acc.zero).totals.toList =
    [("Ca", 3/200), ("Na", 1/400), ("S", 7/800)] ∧
    (addMix primEx storeEx [(1, 1/4), (2, 3/4)] Acc.zero).water = 7/4 ∧
    (addMix primEx storeEx [(1, 1/4), (2, 3/4)] Acc.zero).tc = 10 * (1/7) + 30 * (6/7) := by decide +kernel
/-- same result in the other order; and with solution 1 split over two copies (1 and 7) -/
example : addMix primEx storeEx [(2, 3/4), (1, 1/4)] Acc.zero = addMix primEx storeEx [(1, 1/4), (2, 3/4)] Acc.zero :=
  mix_perm _ _ _ _ (List.Perm.swap _ _ _) _
example : addMix primEx storeEx [(1, 1/8), (7, 1/8), (2, 3/4)] Acc.zero = addMix primEx storeEx [(1, 1/8 + 1/8), (2, 3/4)] Acc.zero :=
  self_mix primEx storeEx 1 7 solA (1/8) (1/8) [(2, 3/4)] Acc.zero rfl rfl (by decide +kernel) (by decide +kernel)
    (by decide +kernel)
example : (readMix [(1, 3/10), (2, 1/2), (1, 7/10)]).toList = [(1, 1), (2, 1/2)] := by decide +kernel
/-- all water and amounts ×1000: totals ×1000, temperature unchanged -/
example : (addMix primEx (fun n => (storeEx n).map (·.scale 1000)) [(1, 1/4), (2, 3/4)] Acc.zero).totals.toList =
    [("Ca", 15), ("Na", 5/2), ("S", 35/4)] ∧
    (addMix primEx (fun n => (storeEx n).map (·.scale 1000)) [(1, 1/4), (2, 3/4)] Acc.zero).tc = 10 * (1/7) + 30 * (6/7) := by
  decide +kernel

/-- fractions ×4: four times as much of the same mixture -/
example : (addMix primEx storeEx [(1, 1), (2, 3)] Acc.zero).totals.toList = [("Ca", 3/50), ("Na", 1/100), ("S", 7/200)] ∧
    (addMix primEx storeEx [(1, 1), (2, 3)] Acc.zero).cb = 4 * (addMix primEx storeEx [(1, 1/4), (2, 3/4)] Acc.zero).cb ∧
    (addMix primEx storeEx [(1, 1), (2, 3)] Acc.zero).tc = (addMix primEx storeEx [(1, 1/4), (2, 3/4)] Acc.zero).tc ∧
    (addMix primEx storeEx [(1, 1/4), (2, 3/4)] Acc.zero).cb = 1/4000 := by decide +kernel

end PhreeqcVerif.MixAlg

namespace PhreeqcVerif.Units.Sol
open Txt

/-- **SOLUTION_SPREAD rows versus SOLUTION blocks, with the solution-level options.** A data row read under block-level option
lines `ds` is the SOLUTION block whose lines are `ds` followed by the column strings `heading datum unit-cell` — settings (units,
temperature, pH, pe, density, water) and constituents alike. Because a block applies its lines in order, this is the precedence
row cell > block-level option > built-in default; the units a constituent without units inherits are those in force at the end. -/
theorem spread_row_is_block (ds : List (List Char)) (cells : List (List Char × List Char × List Char))
    (hd : ∀ l ∈ ds, CommonOpt l)
    (hc : ∀ c ∈ cells, CommonOpt (spreadCell c.1 c.2.1 c.2.2) ∨ ConstituentLine (spreadCell c.1 c.2.1 c.2.2)) :
    readRow ds cells = readBlock (ds ++ cells.map fun c => spreadCell c.1 c.2.1 c.2.2) := by
  unfold readRow readBlock
  rw [List.foldl_append]
  -- the option lines: block level of SOLUTION_SPREAD against SOLUTION block
  have e : ds.foldl (stepLine .block) (some ⟨{}, []⟩) = (ds.foldl stepDefault (some {})).map (⟨·, []⟩) :=
    List.foldl_hom_mem (Option.map fun s => (⟨s, []⟩ : Read)) stepDefault (stepLine .block) ds (some {})
      fun acc l hl => stepLine_block_default acc [] l (hd l hl)
  rw [e]
  cases ds.foldl stepDefault (some {}) with
  | none => exact (stepLine_none _ _).symm
  | some d =>
    -- the column strings: row against block
    refine List.foldl_hom_mem id (stepLine .block) (stepLine .row) _ _ fun acc l hl => ?_
    obtain ⟨c, hcm, rfl⟩ := List.mem_map.mp hl
    exact stepLine_row_block acc _ (hc c hcm)

/-! concrete rows (kernel-evaluated): row cell > block-level -units > built-in -/
def exDefaults : List (List Char) := ["-units mmol/kgw".toList, "-temp 12".toList, "-water 0.5".toList]
def exCells : List (List Char × List Char × List Char) :=
  [("units".toList, "umol/kgw".toList, []), ("pH".toList, "6.5".toList, []), ("Ca".toList, "2400".toList, []),
   ("Cl".toList, "30".toList, "mg/kgw".toList), ("Water".toList, "2".toList, [])]
def exMaster : String → Option Rat := fun n => if n = "Ca" then some (4008/100) else if n = "Cl" then some (35453/1000) else none

/-- the row as read, evaluated once for the instances below -/
theorem readRow_ex : readRow exDefaults exCells =
    some ⟨{ units := ⟨.micro, .mol, .perKgw⟩, temp := 12, ph := 13/2, water := 2 },
      [⟨"Ca".toList, 2400, none, [], 0, []⟩, ⟨"Cl".toList, 30, some "mg/kgw".toList, [], 0, []⟩]⟩ := by decide +kernel

example : (readRow exDefaults exCells).map (·.set) =
    some { units := ⟨.micro, .mol, .perKgw⟩, temp := 12, ph := 13/2, water := 2 } := by rw [readRow_ex]; rfl
/-- Ca has no units of its own: it is read in the units of the ROW (umol/kgw), not in the block-level mmol/kgw -/
example : ((readRow exDefaults exCells).bind (compsOf exMaster fun _ => false)).map (·.map fun c => (c.name, c.unit.str)) =
    some [("Ca", "uMol/kgw"), ("Cl", "mg/kgw")] := by rw [readRow_ex]; decide +kernel
example : ((readRow exDefaults (exCells.drop 1)).bind (compsOf exMaster fun _ => false)).map (·.map fun c => (c.name, c.unit.str)) =
    some [("Ca", "mMol/kgw"), ("Cl", "mg/kgw")] := by decide +kernel
example : ((readRow [] [("Ca".toList, "2.4".toList, [])]).bind (compsOf exMaster fun _ => false)).map (·.map fun c => c.unit.str) =
    some ["mMol/kgw"] := by decide +kernel
/-- a row whose units cell changes the family: the per-column unit must follow the row (mg/l is now incompatible) -/
example : (readRow exDefaults [("unit".toList, "ug/L".toList, []), ("Cl".toList, "30".toList, "mg/kgw".toList)]).bind
    (compsOf exMaster fun _ => false) = none := by decide +kernel
/-- the hypotheses of `spread_row_is_block` hold for this row -/
example : readRow exDefaults exCells = readBlock (exDefaults ++ exCells.map fun c => spreadCell c.1 c.2.1 c.2.2) := by
  apply spread_row_is_block
  · intro l hl
    simp only [exDefaults, List.mem_cons, List.not_mem_nil, or_false] at hl
    rcases hl with rfl | rfl | rfl
    · exact .intro _ "units" (by decide +kernel)
    · exact .intro _ "temp" (by decide +kernel)
    · exact .intro _ "water" (by decide +kernel)
  · intro c hc
    simp only [exCells, List.mem_cons, List.not_mem_nil, or_false] at hc
    rcases hc with rfl | rfl | rfl | rfl | rfl
    · left; exact .intro _ "units" (by decide +kernel)
    · left; exact .intro _ "ph" (by decide +kernel)
    · right; exact .intro _ "Ca".toList ["2400".toList] (by decide +kernel)
    · right; exact .intro _ "Cl".toList ["30".toList, "mg/kgw".toList] (by decide +kernel)
    · left; exact .intro _ "water" (by decide +kernel)

/-- the built-in default of `read_solution_spread` is the literal "mmol/kgw", which never went through `check_units`; the string
tests of `convert_units` cannot tell it from the canonical "mMol/kgw" -/
example : sPreFactor "mmol/kgw".toList = sPreFactor "mMol/kgw".toList ∧ sGramPerSolution "mmol/kgw".toList = sGramPerSolution "mMol/kgw".toList ∧
    sMolPerSolution "mmol/kgw".toList = sMolPerSolution "mMol/kgw".toList ∧ sIsGram "mmol/kgw".toList = sIsGram "mMol/kgw".toList ∧
    sPerL "mmol/kgw".toList = sPerL "mMol/kgw".toList ∧ sPerSolution "mmol/kgw".toList = sPerSolution "mMol/kgw".toList := by decide +kernel

end PhreeqcVerif.Units.Sol
