import PhreeqcVerif.Lemmas.ErrAcct
import PhreeqcVerif.Gen.ErrAcct
import PhreeqcVerif.Model.LineReader
/-!
# C08 — bad input is reported as errors (the part a model can carry)

The statements quantify over *every* program of engine steps (`Program`: any number of simulations, each a reading phase of
arbitrary steps, the `tidy_model` gate, a running phase, then the last `read_input` that meets the end of the input), every
switch configuration and every prior wrapper state.  Crash-freedom, absence of undefined behaviour and the engine half of the
reload are *not* theorems: they are sanitizer-backed exploration (tools/props/c08.py).
-/
namespace PhreeqcVerif.ErrAcct
open PhreeqcVerif.Route

/-! ## tie to the source: obligations over the table regenerated by tools/gen_erracct.py on every run -/

/-- every code-shape fact the model reproduces holds of the current source (bodies of `get_input_errors`, the three `error_msg`
layers, `read_input`'s reset, `tidy_model`'s gate, the order of the API functions, `check_database`, `load_db`, …) -/
theorem shape_facts_hold : ∀ f ∈ Gen.ErrAcct.shapeFacts, f.2 = true := by decide +kernel

/-- `input_error++` sites that have no `error_msg` next to them, outside the reading phase, reviewed one by one:
`print_mix` (print.cpp): `solution_ptr == NULL` for a solution of a MIX that is being printed — the MIX was resolved by
`tidy`/`step` before ("Mix solution not found" + "Program terminating due to input errors." are raised first). -/
def reviewedRunPhaseBumps : List String := ["print_mix"]

/-- the typing of the model's phases: outside the reading phase (`read_*`, `tidy_*`, …, all before `tidy_model`'s gate) every
increment of `input_error` stands next to an `error_msg` call (`RunStep.bumpErr` / `RunStep.errBump`) -/
theorem bumps_paired_or_reading :
    ∀ s ∈ Gen.ErrAcct.bumpSites, s.paired = true ∨ s.reading = true ∨ s.func ∈ reviewedRunPhaseBumps := by decide +kernel

/-- the model instance for the current source -/
abbrev loadCallNow := loadCall Gen.ErrAcct.loadRefreshesLines

/-! ## return value ⇔ ERROR events -/

/-- `RunString` / `RunFile` / `RunAccumulated`: the return value is non-zero exactly when at least one ERROR event was routed
in that call — for every program, every wrapper state (database loaded or not), every switch setting. -/
theorem retval_nonzero_iff_error (cfg : ErrCfg) (on : Bool) (w : Wrapper) (p : Program) :
    (runCall cfg on w p).ret ≠ 0 ↔ errCount (runCall cfg on w p).events > 0 := by
  by_cases h : w.dbLoaded = true
  · rw [runCall_ret h, runCall_events h]
    exact count_ne_zero_iff (preserved_counted.prog counted_start p) (settled_prog _ p)
  · -- "No database is loaded": `input_error` is 1 before the message, so `engineErr` leaves it alone and the count is 1
    -- whatever the wrapper's `io_error_count` was; the message is the one event of the call
    rw [runCall, if_neg h]
    exact iff_of_true (Nat.succ_ne_zero 0) (errCount_concat_err [] on true _ ▸ Nat.succ_pos _)

/-- the same for `LoadDatabase` / `LoadDatabaseString` (events of reading the database followed by those of the self test) -/
theorem load_retval_nonzero_iff_error (rf : Bool) (cfg : ErrCfg) (on : Bool) (w : Wrapper) (db : Sim) (test : Program) :
    (loadCall rf cfg on w db test).ret ≠ 0 ↔ errCount (loadCall rf cfg on w db test).events > 0 := by
  have hc : Counted (dbPhase db) := preserved_counted.sim counted_start _
  by_cases h : (dbPhase db).count = 0
  · have h0 : errCount (dbPhase db).events = 0 :=
      Nat.eq_zero_of_not_pos fun hp => count_ne_zero_of_errCount_pos hc hp h
    rw [loadCall_ok h]
    dsimp only
    rw [errCount_append, h0, Nat.zero_add]
    exact retval_nonzero_iff_error cfg on _ test
  · rw [loadCall, if_neg h]
    exact count_ne_zero_iff hc (settled_gate ..)

/-- without any assumption on the shape of the call (steps in any order, increments of `input_error` anywhere): an ERROR event
makes the return value non-zero -/
theorem retval_nonzero_of_error_any_steps (l : List ReadStep) (h : errCount (l.foldl Acct.read Acct.start).events > 0) :
    (l.foldl Acct.read Acct.start).count ≠ 0 :=
  count_ne_zero_of_errCount_pos (preserved_counted.reading counted_start l) h

/-- the converse is false without the gate of `tidy_model`: a reader that increments `input_error` next to a *warning*
(tidy.cpp `tidy_isotopes`, readtr.cpp `-multi_d`) gives a non-zero count with no ERROR event -/
theorem bump_without_gate_breaks_converse :
    ([ReadStep.bump, .warn true "w".toList].foldl Acct.read Acct.start).count ≠ 0 ∧
    errCount ([ReadStep.bump, .warn true "w".toList].foldl Acct.read Acct.start).events = 0 := by
  decide +kernel

/-! ## the strings describe this call only -/

/-- error and warning strings (and, for `Run*`, the line vectors) after the call are functions of *this call's* events and the
switches: nothing of the wrapper's earlier reporter content, strings or lines survives -/
theorem errors_this_call_only (cfg : ErrCfg) (on : Bool) (w : Wrapper) (p : Program) :
    let r := runCall cfg on w p
    r.w.errorString = (errStrChunks cfg r.events).flatten ∧
    r.w.warningString = (warnStrChunks cfg r.events).flatten ∧
    r.w.errLines = splitLines r.w.errorString ∧
    r.w.warnLines = splitLines r.w.warningString :=
  ⟨rfl, rfl, rfl, rfl⟩

/-- two wrappers with arbitrary different error histories give the same strings and lines for the same call -/
theorem run_strings_independent_of_history (cfg : ErrCfg) (on : Bool) (w w' : Wrapper) (p : Program)
    (h : w.dbLoaded = true) (h' : w'.dbLoaded = true) :
    (runCall cfg on w p).w.errorString = (runCall cfg on w' p).w.errorString ∧
    (runCall cfg on w p).w.warningString = (runCall cfg on w' p).w.warningString ∧
    (runCall cfg on w p).w.errLines = (runCall cfg on w' p).w.errLines ∧
    (runCall cfg on w p).w.warnLines = (runCall cfg on w' p).w.warnLines ∧
    (runCall cfg on w p).ret = (runCall cfg on w' p).ret := by
  rw [runCall_congr h h']
  exact ⟨rfl, rfl, rfl, rfl, rfl⟩

/-- `LoadDatabase`: the strings hold the text of a *suffix* of this call's events (the events of reading the database when that
failed, else those of the self test, whose `check_database` clears the reporters) -/
theorem load_errors_this_call_only (rf : Bool) (cfg : ErrCfg) (on : Bool) (w : Wrapper) (db : Sim) (test : Program) :
    let r := loadCall rf cfg on w db test
    r.w.errorString = (errStrChunks cfg r.reported).flatten ∧
    r.w.warningString = (warnStrChunks cfg r.reported).flatten ∧
    ∃ pre, r.events = pre ++ r.reported := by
  by_cases h : (dbPhase db).count = 0
  · rw [loadCall_ok h]
    exact ⟨rfl, rfl, _, rfl⟩
  · rw [loadCall, if_neg h]
    cases rf <;> exact ⟨rfl, rfl, [], rfl⟩

/-- full statement for the line accessors of `LoadDatabase` — FALSE for `rf = false`, a source whose `load_db` does not call
`update_errors()` (see `failed_load_keeps_stale_lines`):
`(loadCall rf cfg on w db test).w.errLines = splitLines (loadCall rf cfg on w db test).w.errorString`.
What holds for every `rf`: the lines are refreshed when the self test ran, i.e. when reading the database recorded no error. -/
theorem load_lines_this_call_only_partial (rf : Bool) (cfg : ErrCfg) (on : Bool) (w : Wrapper) (db : Sim) (test : Program)
    (h : (Acct.start.sim { db with running := [] }).count = 0) :
    let r := loadCall rf cfg on w db test
    r.w.errLines = splitLines r.w.errorString ∧ r.w.warnLines = splitLines r.w.warningString := by
  rw [loadCall_ok h]
  exact (errors_this_call_only cfg on _ test).2.2

/-- with `update_errors()` called by `load_db` itself (`refresh = true`) the full statement holds for every call -/
theorem load_lines_this_call_only_of_refresh (cfg : ErrCfg) (on : Bool) (w : Wrapper) (db : Sim) (test : Program) :
    let r := loadCall true cfg on w db test
    r.w.errLines = splitLines r.w.errorString ∧ r.w.warnLines = splitLines r.w.warningString := by
  by_cases h : (dbPhase db).count = 0
  · exact load_lines_this_call_only_partial true cfg on w db test h
  · rw [loadCall, if_neg h]
    exact ⟨rfl, rfl⟩

/-- …which is the current source whenever the translator finds the `update_errors()` call in `load_db` and `load_db_str` -/
theorem load_lines_this_call_only (h : Gen.ErrAcct.loadRefreshesLines = true)
    (cfg : ErrCfg) (on : Bool) (w : Wrapper) (db : Sim) (test : Program) :
    (loadCallNow cfg on w db test).w.errLines = splitLines (loadCallNow cfg on w db test).w.errorString ∧
    (loadCallNow cfg on w db test).w.warnLines = splitLines (loadCallNow cfg on w db test).w.warningString := by
  unfold loadCallNow
  rw [h]
  exact load_lines_this_call_only_of_refresh cfg on w db test

/-- the exact missing hypothesis: when reading the database fails, `update_errors` is never called and the line vectors keep
what the previous call left — witness: a wrapper whose last call left two warning lines, then `LoadDatabase` of a missing file -/
theorem failed_load_keeps_stale_lines :
    let cfg : ErrCfg := ⟨true, true, false⟩
    let w : Wrapper := { Wrapper.fresh with dbLoaded := true, warnLines := ["WARNING: old".toList, "second".toList] }
    let db : Sim := ⟨[.engineErr true true "ERROR: LoadDatabase: Unable to open:\"x\".\n".toList], false, true, []⟩
    let r := loadCall false cfg true w db ⟨[], []⟩
    r.ret = 1 ∧ r.w.warningString = [] ∧ r.w.warnLines = ["WARNING: old".toList, "second".toList] ∧
    r.w.errLines = [] ∧ r.w.errorString ≠ [] := by
  -- the unifier reads a literal as `String.ofList _`; the kernel would decode its UTF-8 bytes, which is dear
  repeat rw [String.toList_ofList]
  intro cfg w db r
  have hl := loadCall_failed_lines (db := db) (by decide +kernel) cfg true w ⟨[], []⟩
  exact ⟨by decide +kernel, by decide +kernel, hl.2, hl.1, by decide +kernel⟩

/-! ## STOP unwinds to the API boundary -/

/-- a STOP error event ends the event stream of the call: it is the last ERROR/WARNING event, no event of any kind was routed
after it (`stopAt = routed`), and without a STOP event the stream contains none -/
theorem stop_unwinds_to_api (p : Program) :
    let a := Acct.start.prog p
    (a.stopped = true → ∃ pre e, a.events = pre ++ [e] ∧ isStop e = true ∧ NoStop pre ∧ a.stopAt = some a.routed) ∧
    (a.stopped = false → NoStop a.events ∧ a.stopAt = none) :=
  preserved_stopInv.prog stopInv_start p

/-- nothing the engine would have done after the throw is executed: appending arbitrary further simulations and steps to a
program that stopped changes no observable of the call -/
theorem steps_after_stop_have_no_effect (p : Program) (more : List Sim) (tail' : List TailStep)
    (h : (p.sims.foldl Acct.sim Acct.start).stopped = true) :
    Acct.start.prog ⟨p.sims ++ more, tail'⟩ = Acct.start.prog p := by
  rw [prog_append, prog_stopped h]
  -- `p` itself is its simulations followed by no further simulation and its own tail
  show _ = (p.sims.foldl Acct.sim Acct.start).prog ⟨[], p.tail⟩
  exact (prog_stopped h _).symm

/-- the API call inherits it: the events a trace records for `Run*` end with the STOP event -/
theorem run_stop_is_last (cfg : ErrCfg) (on : Bool) (w : Wrapper) (p : Program) (h : w.dbLoaded = true) :
    let r := runCall cfg on w p
    ∀ pre e post, r.events = pre ++ e :: post → isStop e = true → post = [] := by
  intro r pre e post he hs
  exact (preserved_stopInv.prog stopInv_start p).stop_last ((runCall_events h cfg on p).symm.trans he) hs

/-! ## after a failed call a successful LoadDatabase returns the wrapper's error state to fresh values -/

/-- the wrapper fields of this model after a `LoadDatabase` that returns 0 do not depend on the wrapper state before it -/
theorem load_result_independent_of_wrapper (rf : Bool) (cfg : ErrCfg) (on : Bool) (w w' : Wrapper) (db : Sim) (test : Program)
    (h : (loadCall rf cfg on w db test).ret = 0) :
    (loadCall rf cfg on w db test).w = (loadCall rf cfg on w' db test).w ∧ (loadCall rf cfg on w' db test).ret = 0 := by
  have hc : (dbPhase db).count = 0 :=
    Decidable.byContradiction fun hc => by
      rw [loadCall, if_neg hc] at h
      exact hc h
  rw [loadCall_ok hc] at h
  rw [loadCall_ok hc, loadCall_ok hc]
  exact ⟨rfl, h⟩

/-- for every history of calls — successful or failing, ending in a failed call or not — a `LoadDatabase` that returns 0 leaves
the wrapper's error state (database flag, both counters, both reporters, both line vectors) exactly as the same load leaves a
new instance -/
theorem failed_then_load_fresh (rf : Bool) (cfg : ErrCfg) (on : Bool) (hist : List Call) (db : Sim) (test : Program)
    (h : (loadCall rf cfg on (history rf cfg on Wrapper.fresh hist) db test).ret = 0) :
    (loadCall rf cfg on (history rf cfg on Wrapper.fresh hist) db test).w = (loadCall rf cfg on Wrapper.fresh db test).w ∧
    (loadCall rf cfg on Wrapper.fresh db test).ret = 0 :=
  load_result_independent_of_wrapper rf cfg on _ _ db test h

/-- and the calls after it behave as on the new instance -/
theorem failed_then_load_then_calls_eq_fresh (rf : Bool) (cfg : ErrCfg) (on : Bool) (hist later : List Call) (db : Sim) (test : Program)
    (h : (loadCall rf cfg on (history rf cfg on Wrapper.fresh hist) db test).ret = 0) :
    history rf cfg on (loadCall rf cfg on (history rf cfg on Wrapper.fresh hist) db test).w later =
    history rf cfg on (loadCall rf cfg on Wrapper.fresh db test).w later := by
  rw [(failed_then_load_fresh rf cfg on hist db test h).1]

/-! ## the input-stream stack is empty when a call has returned -/

/-- for every sequence of include / exhaustion / stop steps and whatever was on the stack before: nothing is left -/
theorem streams_empty_after_call (before : Nat) (steps : List StreamStep) : streamsAfterCall before steps = 0 := rfl

/-- so the next call (in particular the next `LoadDatabase`) starts from an empty stack whatever the history of failed calls was -/
theorem streams_empty_after_history (calls : List (List StreamStep)) :
    calls.foldl (fun d st => streamsAfterCall d st) 0 = 0 :=
  List.foldl_fixed_point (streams_empty_after_call 0) calls

/-- why the position of `clear_istream()` matters: released inside `do_run` after the tail that re-throws, a run stopped while part of its
input is unread leaves the caller's (destroyed) stream on the stack — and an open include file above it -/
theorem clear_inside_do_run_leaks :
    streamsAfterCallClearInsideDoRun 0 [.stop] = 1 ∧
    streamsAfterCallClearInsideDoRun 0 [.includeOpen, .stop] = 2 ∧
    streamsAfterCallClearInsideDoRun 0 [.includeOpen, .exhausted, .exhausted] = 0 := by decide +kernel

/-- a stopped run never pops: the depth at the throw is what the `catch` block finds -/
theorem stopped_run_keeps_depth (before : Nat) (pre post : List StreamStep) :
    (streamsAfterDoRun before (pre ++ .stop :: post)).depth = (streamsAfterDoRun before pre).depth ∧
    (streamsAfterDoRun before (pre ++ .stop :: post)).stopped = true := by
  unfold streamsAfterDoRun
  rw [List.foldl_append, List.foldl_cons, List.foldl_fixed_point (Streams.step_stopped rfl)]
  exact ⟨rfl, rfl⟩

/-! ## the line reader feeds the accounting: a missing include file fails the call -/

/-- what the reader hands to the accounting for one item of `LineReader.readLinesFS`: a line is (at least) echoed, a directive naming a
file that cannot be opened is `error_msg("Could not open include file …", OT_STOP)` through `PHRQ_io` directly -/
def itemStep : LineReader.Item → ReadStep
  | .line _ => .other
  | .missing _ => .ioErr true true "ERROR: Could not open include file".toList
  | .tooDeep _ => .other

/-- an error step in the reading phase fails the call, whatever the other steps do -/
theorem error_step_fails_call (cfg : ErrCfg) (on : Bool) (w : Wrapper) (hw : w.dbLoaded = true) {reading : List ReadStep}
    {on' stop : Bool} {t : List Char} (h : ReadStep.ioErr on' stop t ∈ reading) (pe gate : Bool) (running : List RunStep)
    (tail : List TailStep) : (runCall cfg on w ⟨[⟨reading, pe, gate, running⟩], tail⟩).ret ≠ 0 := by
  rw [retval_nonzero_iff_error, runCall_events hw]
  have hread := errCount_pos_of_ioErr_mem (preserved_counted.readInput counted_start) h
  -- ERROR events only accumulate along the rest of the program
  have mono := preserved_le_errCount 1
  exact mono.tail (mono.readInput (mono.running (mono.gate hread pe gate) running)) tail

/-- for every file system, include depth budget and input text: if some INCLUDE$ directive on the way names a file that cannot be opened,
`RunString` of that text returns non-zero (whatever the other lines do) -/
theorem missing_include_fails_call (cfg : ErrCfg) (on : Bool) (w : Wrapper) (hw : w.dbLoaded = true)
    (fs : LineReader.Bytes → Option LineReader.Bytes) (d : Nat) (s : LineReader.Bytes) (name : LineReader.Bytes)
    (h : LineReader.Item.missing name ∈ LineReader.readLinesFS fs d s) (pe gate : Bool) (running : List RunStep) (tail : List TailStep) :
    (runCall cfg on w ⟨[⟨(LineReader.readLinesFS fs d s).map itemStep, pe, gate, running⟩], tail⟩).ret ≠ 0 :=
  error_step_fails_call cfg on w hw (List.mem_map.mpr ⟨_, h, rfl⟩) pe gate running tail

/-! ## non-vacuity: concrete calls -/

private def cfgOn : ErrCfg := ⟨true, true, false⟩
private def loaded : Wrapper := { Wrapper.fresh with dbLoaded := true }

/-- `SOLUTION 1; -bogus 1` : two reader errors (increment + message each), then the gate stops the call: return 2, 3 ERROR events,
the third with STOP, error string = their concatenation -/
example :
    let p : Program := ⟨[⟨[.bump, .engineErr true false "ERROR: Unknown option.\n".toList,
                            .bump, .engineErr true false "ERROR: -bogus 1\n".toList], false, true, [.other]⟩], [.other]⟩
    let r := runCall cfgOn true loaded p
    r.ret = 2 ∧ errCount r.events = 3 ∧ r.stopAt = some 3 ∧ r.routed = 3 ∧
    r.w.errLines.length = 3 := by
  rw [String.toList_ofList, String.toList_ofList]
  decide +kernel

/-- a clean call returns 0 with warnings only; the next call's strings do not contain them -/
example :
    let p1 : Program := ⟨[⟨[.warn true "WARNING: x".toList], false, true, [.other, .other]⟩], []⟩
    let p2 : Program := ⟨[⟨[], false, true, [.engineErr true true "ERROR: boom\n".toList]⟩], []⟩
    let r1 := runCall cfgOn true loaded p1
    let r2 := runCall cfgOn true r1.w p2
    r1.ret = 0 ∧ r1.w.warnLines = ["WARNING: x".toList] ∧ r2.ret = 1 ∧ r2.w.warningString = [] ∧ r2.w.warnLines = [] ∧
    r2.w.errLines = ["ERROR: boom".toList] := by
  repeat rw [String.toList_ofList]
  decide +kernel

/-- a run-phase error without STOP in simulation 1 is caught by the gate of simulation 2 (`io_error_count` survives `read_input`) -/
example :
    let p : Program := ⟨[⟨[], false, true, [.engineErr true false "ERROR: a\n".toList]⟩, ⟨[], false, true, [.other]⟩], []⟩
    let r := runCall cfgOn true loaded p
    r.ret = 2 ∧ errCount r.events = 2 := by decide +kernel

/-- no database: return 1, one STOP event, the earlier counters do not leak into the answer -/
example : (runCall cfgOn true { Wrapper.fresh with ioErrors := 7 } ⟨[], []⟩).ret = 1 ∧
    errCount (runCall cfgOn true { Wrapper.fresh with ioErrors := 7 } ⟨[], []⟩).events = 1 := by decide +kernel

/-- failed run, then a successful load: wrapper state as on a new instance -/
example :
    let bad : Program := ⟨[⟨[.bump, .engineErr true false "ERROR: e\n".toList], false, true, []⟩], []⟩
    let db : Sim := ⟨[.warn true "WARNING: db".toList], false, true, []⟩
    let test : Program := ⟨[⟨[], false, true, [.other]⟩], []⟩
    let w1 := history false cfgOn true loaded [.run bad]
    w1.errLines ≠ [] ∧ (loadCall false cfgOn true w1 db test).ret = 0 ∧
    (loadCall false cfgOn true w1 db test).w.errLines = [] ∧
    (loadCall false cfgOn true w1 db test).w = (loadCall false cfgOn true Wrapper.fresh db test).w := by
  rw [String.toList_ofList, String.toList_ofList]
  intro bad db test w1
  have hret : (loadCall false cfgOn true w1 db test).ret = 0 := by decide +kernel
  exact ⟨by decide +kernel, hret, by decide +kernel, (load_result_independent_of_wrapper _ _ _ _ _ _ _ hret).1⟩

end PhreeqcVerif.ErrAcct
