/-
C07 — Loading a database returns the instance to the fresh state.

Part 1 (theorems, all histories): the wrapper state machine of Model/Reset.lean.  For every history of calls (setters,
accumulated lines, successful and failing runs, earlier loads) a LoadDatabase that returns 0 leaves exactly the state a
newly created instance reaches after the same load once it has been given the same instance id, global switches and
file names; hence every later call returns the same code and every getter the same value — provided the engine satisfies
`EngineReset` (unload = fresh), or only `EngineResetUpTo R` for a relation `R` that no engine operation can tell apart.
Part 2 (obligations over data regenerated from the clang AST of /repo on every run, `decide`): the static half of
`EngineReset` — every member an input reader can write is put back by init()/initialize()/clean_up()/UnLoadDatabase/
the read_input prologue or is explained in Model/ResetPolicy.lean; every member of class Phreeqc is accounted for; the
data members of class IPhreeqc are handled by UnLoadDatabase as the model says.
The dynamic half of `EngineReset` is the correspondence check of tools/props/c07.py (white-box member dump + black-box channels).
The last section joins the two parts: `c07_member_engine` takes the engine state to be a valuation of the numbered members and
the unload to be the extracted reset path, and is left with `Respects` as its only engine hypothesis.
-/
import PhreeqcVerif.Model.Reset
import PhreeqcVerif.Model.ResetPolicy
import PhreeqcVerif.Lemmas.Reset
import PhreeqcVerif.Gen.Members

namespace PhreeqcVerif.C07
open PhreeqcVerif.Reset

variable {E : Type}

/-! ## Part 1 — wrapper model -/

/-- UnLoadDatabase leaves id, switches, names (and the per-call strings) alone and puts every other member back -/
theorem unload_resets (eng : Engine E) (w : W E) :
    (unloadDatabase eng w).c = ({} : Cleared) ∧ survivors (unloadDatabase eng w) = survivors w ∧
    (unloadDatabase eng w).pc = w.pc := by
  simp [unloadDatabase, survivors]

/-- `load_resets_wrapper`: after a load that returns 0, the whole instance state (every member of the model, engine included)
    equals the state of a new instance after the same load, whatever the history left in `w`; the new instance also returns 0. -/
theorem load_resets_wrapper (eng : Engine E) (hE : EngineReset eng) (w : W E) (db : String)
    (h0 : (load eng w db).2 = 0) :
    (load eng w db).1 = (load eng (freshWith eng (survivors w)) db).1 ∧
    (load eng (freshWith eng (survivors w)) db).2 = 0 := by
  have hf := load_forgets_eq eng hE w (freshWith eng (survivors w)) db rfl
  exact ⟨hf.2 h0, hf.1 ▸ h0⟩

/-- the result code of a load does not depend on the history either -/
theorem load_result_eq_fresh (eng : Engine E) (hE : EngineReset eng) (w : W E) (db : String) :
    (load eng w db).2 = (load eng (freshWith eng (survivors w)) db).2 :=
  (load_forgets_eq eng hE w (freshWith eng (survivors w)) db rfl).1

/-- `load_then_calls_eq_fresh`: for every history `hist` run on a new instance (including failing calls and earlier loads)
    and every sequence of later calls, result codes and all observations after a successful load coincide with those of a
    fresh instance given the same survivors. -/
theorem load_then_calls_eq_fresh (eng : Engine E) (hE : EngineReset eng) (i : Nat) (hist later : List Op) (db : String)
    (h0 : (load eng (runOps eng (create eng i) hist) db).2 = 0) :
    trace eng (load eng (runOps eng (create eng i) hist) db).1 later =
    trace eng (load eng (freshWith eng (survivors (runOps eng (create eng i) hist))) db).1 later := by
  rw [(load_resets_wrapper eng hE _ db h0).1]

/-- the survivors the property names do survive: id and the global switches are those before the load -/
theorem load_keeps_id_and_switches (eng : Engine E) (w : W E) (db : String) :
    (load eng w db).1.id = w.id ∧ (load eng w db).1.sw = w.sw := by
  unfold load loadDb unloadDatabase
  by_cases hn : (eng.readDb (eng.unload w.engine) db).2 = 0
  · simp [hn, runString, runCore]
  · simp [hn]

/-- user-set file names survive a load whose internal test run opens no selected-output or dump file -/
theorem load_keeps_names (eng : Engine E) (w : W E) (db : String)
    (hrun : ∀ e env s, (eng.run e env s).2.selNames = env.names.sel ∧ (eng.run e env s).2.dumpName = env.names.dump) :
    (load eng w db).1.names = w.names := by
  unfold load loadDb unloadDatabase
  by_cases hn : (eng.readDb (eng.unload w.engine) db).2 = 0
  · simp [hn, runString, runCore, runEnv, hrun]
  · simp [hn]

/-- a fresh instance given its own survivors is itself -/
theorem freshWith_create (eng : Engine E) (i : Nat) : freshWith eng (survivors (create eng i)) = create eng i := by
  simp [freshWith, create, survivors]

/-- nothing but the survivors of `w` enters the state after a successful load -/
theorem load_depends_on_survivors_only (eng : Engine E) (hE : EngineReset eng) (w w' : W E) (db : String)
    (hs : survivors w = survivors w') (h0 : (load eng w db).2 = 0) :
    (load eng w db).1 = (load eng w' db).1 :=
  (load_forgets_eq eng hE w w' db hs).2 h0

/-! ### the same with a weaker engine hypothesis: reset up to an indistinguishability relation

`EngineReset` (unload = fresh, as an equation) is more than the code provides: scratch members keep their old value.
What the code is meant to provide is that unload reaches the fresh engine *up to* a relation R that no operation can tell
apart (`Respects`).  The theorems below need only that. -/

/-- after a load that returns 0 the instance is indistinguishable from a fresh one given the same survivors -/
theorem load_resets_wrapper_upto (eng : Engine E) (R : E → E → Prop) (hEq : Equivalence R) (hR : Respects eng R)
    (hU : EngineResetUpTo eng R) (w : W E) (db : String) (h0 : (load eng w db).2 = 0) :
    Rel R (load eng w db).1 (load eng (freshWith eng (survivors w)) db).1 ∧
    (load eng (freshWith eng (survivors w)) db).2 = 0 :=
  load_rel_fresh eng R hEq hR hU w db h0

/-- `load_then_calls_eq_fresh` for every history and every later call sequence, under `EngineResetUpTo R` -/
theorem load_then_calls_eq_fresh_upto (eng : Engine E) (R : E → E → Prop) (hEq : Equivalence R) (hR : Respects eng R)
    (hU : EngineResetUpTo eng R) (i : Nat) (hist later : List Op) (db : String)
    (h0 : (load eng (runOps eng (create eng i) hist) db).2 = 0) :
    trace eng (load eng (runOps eng (create eng i) hist) db).1 later =
    trace eng (load eng (freshWith eng (survivors (runOps eng (create eng i) hist))) db).1 later :=
  Reset.load_then_calls_eq_fresh_upto eng R hEq hR hU i hist later db h0

/-- related instances stay related under every call and return the same codes (the simulation the two theorems rest on) -/
theorem calls_preserve_relation (eng : Engine E) (R : E → E → Prop) (hR : Respects eng R) (w1 w2 : W E) (op : Op)
    (h : Rel R w1 w2) : Rel R (step eng w1 op) (step eng w2 op) ∧ result eng w1 op = result eng w2 op :=
  step_rel eng R hR w1 w2 op h

/-- the equation form is the special case R = equality -/
theorem engineReset_is_upto_eq (eng : Engine E) : EngineReset eng ↔ EngineResetUpTo eng Eq := Iff.rfl

/-! ### a concrete engine: non-vacuity and the witness that the premise "returns 0" is needed -/

/-- toy engine: the state is the list of definitions read so far; a database containing "bad" has one input error;
    a run whose input contains "fail" reports one error but keeps what it read before -/
def toy : Engine (List String) where
  fresh := []
  unload := fun _ => []
  readDb := fun _ db => if db = "bad" then ([], 1) else ([db], 0)
  readDbText := fun _ db => if db = "bad" then ("ERROR: bad database", "") else ("", "")
  run := fun e env s =>
    (e ++ [s],
     { errors := if s = "fail" then 1 else 0,
       pc := { outputString := if env.sw.outStr then String.intercalate ";" (e ++ [s]) else "",
               logString := if env.logOn && env.sw.logStr then "log" else "" },
       selTables := [(env.curSel, s)], selStrings := [], selLines := [], dumpString := env.dumpString,
       errText := if s = "fail" then "ERROR" else "", warnText := "",
       selNames := env.names.sel, dumpName := env.names.dump, logOn := env.logOn || s = "knobs" })
  testInput := fun _ => "SOLUTION 1;DELETE"
  components := fun e => e

theorem toy_reset : EngineReset toy := fun _ => rfl

/-- a history with setters, a successful run, a run that switches the log on, a failing run and an earlier load -/
def hist1 : List Op :=
  [.setSwitch .outStr true, .setName .out "my.out", .load "db1", .runString "knobs", .setCur 5, .setSelStrOn true,
   .accumulate "line", .runString "fail", .listComponents]

example : (load toy (runOps toy (create toy 3) hist1) "db2").2 = 0 := by decide +kernel
-- the history really left something behind …
example : (runOps toy (create toy 3) hist1).c.logOn = true ∧ (runOps toy (create toy 3) hist1).c.curSel = 5 ∧
          (runOps toy (create toy 3) hist1).engine.length = 4 := by decide +kernel
-- … and the load removed it, keeping the survivors
example : (load toy (runOps toy (create toy 3) hist1) "db2").1.c.logOn = false ∧
          (load toy (runOps toy (create toy 3) hist1) "db2").1.c.curSel = 1 ∧
          (load toy (runOps toy (create toy 3) hist1) "db2").1.sw.outStr = true ∧
          (load toy (runOps toy (create toy 3) hist1) "db2").1.names.out = "my.out" ∧
          (load toy (runOps toy (create toy 3) hist1) "db2").1.id = 3 := by decide +kernel
-- the theorem instantiated: later calls see the same thing (and something non-trivial)
example : trace toy (load toy (runOps toy (create toy 3) hist1) "db2").1 [.runString "x", .listComponents] =
          trace toy (load toy (freshWith toy (survivors (runOps toy (create toy 3) hist1))) "db2").1 [.runString "x", .listComponents] :=
  load_then_calls_eq_fresh toy toy_reset 3 hist1 _ "db2" (by decide +kernel)
example : ((trace toy (load toy (runOps toy (create toy 3) hist1) "db2").1 [.runString "x"]).map (·.2.pc.outputString)) =
          ["db2;SOLUTION 1;DELETE;x"] := by decide +kernel

/-- the premise "returns 0" cannot be dropped: a load that fails leaves the per-call strings of the history in place
    (UnLoadDatabase does not clear OutputString; only the test run of a successful load does) -/
theorem load_failure_keeps_output_string :
    (load toy (runOps toy (create toy 0) [.setSwitch .outStr true, .load "db1", .runString "x"]) "bad").2 ≠ 0 ∧
    (load toy (runOps toy (create toy 0) [.setSwitch .outStr true, .load "db1", .runString "x"]) "bad").1.pc.outputString ≠
    (load toy (freshWith toy (survivors (runOps toy (create toy 0) [.setSwitch .outStr true, .load "db1", .runString "x"]))) "bad").1.pc.outputString := by
  decide +kernel

/-- without `EngineReset` the conclusion fails: an engine whose unload keeps its definitions shows the history after the load -/
def leaky : Engine (List String) := { toy with unload := fun e => e, readDb := fun e db => (e ++ [db], 0) }

theorem engine_reset_needed :
    (load leaky (runOps leaky (create leaky 0) [.load "db1", .runString "x"]) "db2").2 = 0 ∧
    (load leaky (runOps leaky (create leaky 0) [.load "db1", .runString "x"]) "db2").1.engine ≠
    (load leaky (freshWith leaky (survivors (runOps leaky (create leaky 0) [.load "db1", .runString "x"]))) "db2").1.engine := by
  decide +kernel

/-! ## Part 2 — obligations over the members extracted from the source (regenerated on every run) -/

open PhreeqcVerif.Gen.Members PhreeqcVerif.ResetPolicy

/-- members the load path puts back -/
def resetIds : List Nat := initAssigned ++ cleaned ++ unloadReset ++ simPrologue

def maskOf (l : List Nat) : Nat := l.foldl (fun m i => m ||| (1 <<< i)) 0

/-- the bit mask in Gen/Members is the mask of the four extracted lists -/
theorem reset_mask_ok : resetMask = maskOf resetIds := by decide +kernel

def isReset (i : Nat) : Bool := resetMask.testBit i

/-- a member path is covered when it, its parent member, or every accessed field of it is reset -/
def covered (i : Nat) : Bool :=
  isReset i ||
  parentOf.any (fun p => p.1 == i && isReset p.2) ||
  (parentOf.any (fun p => p.2 == i) && parentOf.all (fun p => p.2 != i || isReset p.1))

/-- also explained when the parent member is explained -/
def explainedBy (l : List Nat) (i : Nat) : Bool :=
  l.contains i || parentOf.any (fun p => p.1 == i && l.contains p.2)

/-- the same as a bit mask: the members of `l` and the field paths of those members -/
def explainedMask (l : List Nat) : Nat :=
  parentOf.foldl (fun acc p => if (maskOf l).testBit p.2 then acc ||| (1 <<< p.1) else acc) (maskOf l)

/-- the mask in Gen/Members is the mask of the four reviewed lists -/
theorem dead_mask_ok :
    deadMask = explainedMask scratchIds ||| explainedMask healedIds ||| explainedMask fileNamesIds ||| explainedMask knownUnreset := by
  decide +kernel

/-- listed (itself or as a whole member) in a reviewed list: its old value cannot reach a result -/
def dead (i : Nat) : Bool := deadMask.testBit i

/-- the translator recognised every code shape it relies on -/
theorem translator_clean : translatorErrors = [] ∧ unknownResetCallees = [] := by decide

/-- the id lists in Gen/Members are the policy lists -/
theorem policy_ids_ok :
    healedIds.map (fun i => names.getD i "") = healed.map (·.1) ∧
    scratchIds.map (fun i => names.getD i "") = scratch.map (·.1) ∧
    fileNamesIds.map (fun i => names.getD i "") = fileNames.map (·.1) ∧ names.length = memberCount := by
  decide +kernel

/-- `readers_state_reset`: whatever an input reader can write is undone by a load
    (or is a user-set file name, or is healed as ResetPolicy explains, or is a listed known finding) -/
theorem readers_state_reset :
    ∀ f ∈ readerWritten, covered f = true ∨ explainedBy healedIds f = true ∨ explainedBy fileNamesIds f = true ∨
      explainedBy knownUnreset f = true := by
  decide +kernel

/-- reset, or listed (itself or as a whole member) in one of the reviewed lists -/
def accountedPath (i : Nat) : Bool := covered i || dead i

/-- a struct-typed member is also accounted for when every accessed field of it is -/
def accounted (i : Nat) : Bool :=
  accountedPath i || (parentOf.any (fun p => p.2 == i) && parentOf.all (fun p => p.2 != i || accountedPath p.1))

/-- `every_member_accounted`: no data member of class Phreeqc (and no directly accessed field of a struct-typed member) is
    outside reset ∪ scratch ∪ healed ∪ file names -/
theorem every_member_accounted : ∀ f ∈ List.range memberCount, accounted f = true := by
  -- the two masks are read first: for a dead member `accounted` alone sweeps `parentOf` twice before it looks at `deadMask`
  have h : ∀ f ∈ List.range memberCount, isReset f = true ∨ dead f = true ∨ accounted f = true := by decide +kernel
  intro f hf
  rcases h f hf with hr | hd | ha
  · simp [accounted, accountedPath, covered, hr]
  · simp [accounted, accountedPath, hd]
  · exact ha

/-- the code still has the shape every `healed` reason rests on (e.g. read_master_species ends with an *unconditional*
    gfw_map.clear(), read_rates with rates_map.clear(), delete_entities with delete_info.SetAll(false)), and every healed
    member has such an entry -/
theorem healed_reasons_hold :
    (∀ p ∈ healedBy, p ∈ policyEvidence) ∧ (∀ h ∈ healed, h.1 ∈ healedBy.map (·.1)) ∧ (∀ p ∈ ioHealedBy, p ∈ policyEvidence) := by
  have hm : healedBy.map (·.1) = healed.map (·.1) := rfl
  rw [policyEvidence_eq, hm]
  exact ⟨fun p hp => by simp only [List.mem_append, hp, true_or], fun h hh => List.mem_map_of_mem hh,
    fun p hp => by simp only [List.mem_append, hp, true_or, or_true]⟩

/-- every scratch member that the policy says "is overwritten by F" is indeed written by F -/
theorem scratch_writers_exist :
    (∀ p ∈ scratchWriter, p ∈ policyEvidence) ∧ (∀ p ∈ scratchWriter, p.1 ∈ scratch.map (·.1)) := by
  refine ⟨fun p hp => ?_, by decide +kernel⟩
  simp only [policyEvidence_eq, List.mem_append, hp, true_or, or_true]

/-- pointer members: every one is reassigned (NULL or a new object) by the load path or is reviewed as dead; every owning
    pointer is released by clean_up() (or by the function the policy names) and every pointer clean_up() releases is
    reassigned afterwards — nothing of an old heap object stays reachable -/
theorem pointer_members_reset :
    (∀ p ∈ pointerMembers, covered p = true ∨ dead p = true) ∧
    (∀ p ∈ ownedPointers, p ∈ freedInCleanUp ∨ p ∈ freedElsewhereIds) ∧
    (∀ p ∈ freedInCleanUp, covered p = true) ∧
    (∀ p ∈ freedElsewhere, p ∈ policyEvidence) ∧
    freedElsewhereIds.map (fun i => names.getD i "") = freedElsewhere.map (·.1) := by
  refine ⟨by decide +kernel, by decide +kernel, by decide +kernel, fun p hp => ?_, by decide +kernel⟩
  simp only [policyEvidence_eq, List.mem_append, hp, or_true]

/-- PHRQ_io switches that input can flip are restored by UnLoadDatabase / the read_input prologue or explained -/
theorem io_flags_reset :
    ∀ f ∈ ioFlagsSetByReaders, f ∈ ioFlagsResetByUnload ∨ f ∈ ioFlagsResetByPrologue ∨ f ∈ ioHealed.map (·.1) ∨ f ∈ knownUnresetIo := by
  decide +kernel

/-- the load path has the shape the model gives it (facts over the bodies with helpers inlined) -/
theorem load_shape_ok : ∀ p ∈ expectedLoadShape, p ∈ loadShape := by
  decide +kernel

/-- every data member of class IPhreeqc / PHRQ_io has a class in the policy, and the policy names only existing members -/
theorem wrapper_members_classified :
    (∀ f ∈ wrapperFields, f ∈ wrapperClass.map (·.1)) ∧ (∀ p ∈ wrapperClass, p.1 ∈ wrapperFields) := by
  decide +kernel

/-- members the model resets in `unloadDatabase` are reset by IPhreeqc::UnLoadDatabase in the source -/
theorem wrapper_unload_resets : ∀ p ∈ wrapperClass, p.2 = "unload" → p.1 ∈ wrapperUnloadResets := by
  decide +kernel

/-- the survivors (id, global switches, file names) are not written by UnLoadDatabase -/
theorem wrapper_survivors_untouched :
    ∀ p ∈ wrapperClass, (p.2 = "id" ∨ p.2 = "switch" ∨ p.2 = "name") → p.1 ∉ wrapperUnloadWrites := by
  decide +kernel

/-- the per-call members are overwritten by check_database / update_errors / close_output_files -/
theorem wrapper_percall_overwritten : ∀ p ∈ wrapperClass, p.2 = "percall" → p.1 ∈ wrapperPerCall := by
  decide +kernel

/-! ### Part 1 and Part 2 joined: an engine whose state is a valuation of the numbered members -/

/-- a struct-typed member that is only an aggregate of separately numbered field paths, all of them accounted for -/
def aggregateOnly (i : Nat) : Bool :=
  !covered i && parentOf.any (fun p => p.2 == i) && parentOf.all (fun p => p.2 != i || accountedPath p.1)

/-- members whose value can reach a result -/
def liveMember (i : Nat) : Bool := decide (i < memberCount) && !dead i && !aggregateOnly i

theorem accounted_eq (i : Nat) : accounted i = (covered i || dead i || aggregateOnly i) := by
  simp only [accounted, accountedPath, aggregateOnly]
  cases covered i <;> simp

/-- every live member is put back by the load path (the content of `every_member_accounted`, in the form the model uses) -/
theorem live_members_reset (i : Nat) (h : liveMember i = true) : covered i = true := by
  simp only [liveMember, Bool.and_eq_true, decide_eq_true_eq, Bool.not_eq_true'] at h
  have ha := every_member_accounted i (List.mem_range.mpr h.1.1)
  rw [accounted_eq, h.1.2, h.2] at ha
  simpa using ha

/-- C07 for every engine whose state assigns a value to each member of class Phreeqc, whose unload is the reset path
    *as extracted from the source* (`covered`), and whose operations cannot see the members listed as dead:
    for every history and every later call sequence the observations after a successful load equal those of a fresh
    instance.  The only engine hypothesis left is `Respects` — "scratch / healed members are not read before written". -/
theorem c07_member_engine {V : Type} (eng : Engine (Nat → V))
    (hunload : eng.unload = unloadTable eng.fresh (fun i => covered i))
    (hR : Respects eng (Agree liveMember)) (i : Nat) (hist later : List Op) (db : String)
    (h0 : (load eng (runOps eng (create eng i) hist) db).2 = 0) :
    trace eng (load eng (runOps eng (create eng i) hist) db).1 later =
    trace eng (load eng (freshWith eng (survivors (runOps eng (create eng i) hist))) db).1 later := by
  apply Reset.load_then_calls_eq_fresh_upto eng (Agree liveMember) (agree_equivalence _) hR _ i hist later db h0
  intro e
  rw [hunload]
  exact unloadTable_agrees eng.fresh (fun i => covered i) liveMember live_members_reset e

-- non-vacuity of Part 2: the sets are large and the obligations bite
example : (List.range memberCount).countP liveMember > 500 := by decide +kernel
example : 500 < memberCount ∧ 150 < readerWritten.length ∧ 300 < initAssigned.length ∧ 50 < cleaned.length := by decide +kernel
example : covered 0 = false := by decide +kernel      -- `phrq_io` is not reset (it is scratch by policy)

end PhreeqcVerif.C07
